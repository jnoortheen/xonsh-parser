/-
  C18 certificate: in the shipped parser no multi-edge lies on a cycle of the non-memoised call graph.
-/
import XonshVerif.Proofs.PegCost
import XonshVerif.Generated.ParserIR
import XonshVerif.Generated.CostWitness
namespace XVC
open XV XV.Peg

theorem cycle_cert : cycleCert XV.Gen.prog XV.Gen.compN = true := by
  rw [cycleCert, List.walk_eq (aux := cycleCertAux _ _) (fun _ => rfl) (fun _ _ _ => rfl)]
  simp only [checkRule_eq, callSites_all]; decide +kernel

/-- the packed memo mask agrees with the decorators of the regenerated rules -/
theorem memo_mask_correct :
    (List.range XV.Gen.prog.size).all (fun i => (memoMask XV.Gen.prog).testBit i == ((XV.Gen.prog[i]?.map isMemo).getD false)) = true := by
  simp [memoMask_testBit]

/-- the rules that carry a memo cache (by name): exactly the grammar's `(memo)` flags plus the left-recursion leaders -/
theorem memoised_rules_expected :
    ((List.range XV.Gen.prog.size).filter (fun i => (XV.Gen.prog[i]?.map isMemo).getD false)).map (fun i => XV.Gen.ruleNames[i]?.getD "?") =
      ["simple_stmt", "dotted_name", "block", "dec_primary", "closed_pattern", "attr", "star_pattern", "type_param", "expression",
       "star_expression", "disjunction", "conjunction", "inversion", "bitwise_or", "bitwise_xor", "bitwise_and", "shift_expr",
       "sum", "term", "factor", "await_primary", "primary", "proc_cmds", "proc_cmd", "strings", "arguments", "star_target", "target_with_star_atom",
       "t_primary", "del_target", "invalid_named_expression"] := by
  -- rules and names side by side in one pass: every `a[i]?` costs the kernel the size of `a` and a walk of `i` cells
  simp only [← Array.getElem?_toList, Array.size_eq_length_toList]
  rw [List.filter_range_map_getD _ _ (by decide +kernel)]; decide +kernel

/-- **C18, instantiated**: no call edge of multiplicity >= 2 lies on a cycle of the shipped parser's non-memoised call graph -/
theorem shipped_no_multi_edge_on_cycle (a b : Nat) (hm : MultiEdge XV.Gen.prog a b) (back : NMPath XV.Gen.prog b a ∨ b = a) : False :=
  no_multi_edge_on_cycle XV.Gen.prog XV.Gen.compN cycle_cert a b hm back

end XVC
