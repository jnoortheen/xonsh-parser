/-
  Certificates on the data regenerated from /repo: each is `checker generatedData = true`, decided by
  the kernel.  What `checker = true` implies for every input is a generic theorem in XonshVerif/Properties.
-/
import XonshVerif.Model.Peg
import XonshVerif.Generated.ParserIR
import XonshVerif.Generated.Tables
namespace XVC
open XV XV.Peg

/-- every method of the shipped parser.py fits one of the modelled shapes -/
def irComplete (p : Prog) : Bool := p.all (fun r => r.body != .unmodelled)

-- `Array.all` is a loop by well-founded recursion, which the kernel unfolds slowly; `List.all` is structural
theorem ir_complete : irComplete XV.Gen.prog = true := by
  unfold irComplete; rw [← Array.all_toList]; decide +kernel

def primsOfItem : Item → List Prim
  | .call p | .repeated p | .posLook p | .negLook p | .forced p _ => [p]
  | .gathered a b => [a, b]
  | .seqAlts ps => ps
  | .setCut | .guardInvalid => []

def primsOfRule (r : Rule) : List Prim :=
  match r.body with
  | .alts as _ _ => as.flatMap (fun a => a.items.flatMap (fun it => primsOfItem it.item))
  | .seqAlts ps => ps
  | .unmodelled => []

/-- no rule ever tests for an ERRORTOKEN: unknown characters can only make the parse fail -/
def noErrorTokenLeaf (p : Prog) : Bool :=
  p.all (fun r => (primsOfRule r).all (fun q => q != .token .ERRORTOKEN && q != .anyToken))

theorem primsOfRule_all (r : Rule) (p : Prim → Bool) : (primsOfRule r).all p =
    match r.body with
    | .alts as _ _ => as.all (fun a => a.items.all (fun it => (primsOfItem it.item).all p))
    | .seqAlts ps => ps.all p
    | .unmodelled => true := by
  unfold primsOfRule; split <;> simp [List.all_flatMap, *]

theorem errortoken_unmatched : noErrorTokenLeaf XV.Gen.prog = true := by
  unfold noErrorTokenLeaf; rw [← Array.all_toList]; simp only [primsOfRule_all]; decide +kernel

/-- a start rule has a single alternative whose last conjunct is `self.token("ENDMARKER")` and whose
    action is truthy: it cannot succeed before the whole token list is consumed -/
def endsInEndmarker (r : Rule) : Bool :=
  match r.body with
  | .alts [a] _ _ =>
    (match a.items.getLast? with
     | some it => it.item == .call (.token .ENDMARKER) && !it.opt
     | none => false)
  | _ => false

theorem start_demands_endmarker :
    (XV.Gen.prog[XV.Gen.fileId]?.map endsInEndmarker) = some true ∧
    (XV.Gen.prog[XV.Gen.evalId]?.map endsInEndmarker) = some true := by decide +kernel

/-- C06: the four bracket forms call the four documented runtime methods -/
theorem bracket_method_table :
    XV.Gen.subprocTable =
      [("$(", ")", "subproc_captured"), ("$[", "]", "subproc_uncaptured"),
       ("![", "]", "subproc_captured_hiddenobject"), ("!(", ")", "subproc_captured_object")] ∧
    XV.Gen.procCmdTable = [("@(", "proc_pyexpr"), ("@$(", "proc_inject")] := ⟨rfl, rfl⟩

/-- C05: every alternative that starts an environment / search-path / help construct calls the documented builder with the
    documented expression context, and these are ALL the alternatives that call those builders; `||` / `or` build `Or`,
    `&&` / `and` build `And` (tables read off the regenerated IR's actions) -/
theorem xonsh_builder_table :
    XV.Gen.xonshBuilderTable =
      [("primary", "gathered", "expand_help", "Load"), ("env_atom", "$", "expand_env_name", "Load"), ("env_atom", "${", "expand_env_expr", "Load"),
       ("proc_cmd", "!STRING", "expand_help", "Load"), ("search_path", "SEARCH_PATH", "expand_search_path", "Load"),
       ("target_with_star_atom", "$", "expand_env_name", "Store"), ("target_with_star_atom", "${", "expand_env_expr", "Store")] ∧
    XV.Gen.boolOpTable = [("disjunction", "or,||", "Or"), ("conjunction", "&&,and", "And")] := ⟨rfl, rfl⟩

/-- C11: in every `raise_syntax_error_known_range(msg, start, end)` of the shipped parser both position arguments come from
    variables of the alternative, and the conjunct that binds `start` does not come after the one that binds `end` - so
    (token order, C08; `span_well_oriented`) the reported range does not end before it starts. -/
theorem range_raise_arguments_in_order :
    XV.Gen.rangeRaiseTable.all (fun r => decide (0 ≤ r.2.2.1) && decide (r.2.2.1 ≤ r.2.2.2)) = true := by decide

/-- C07: raw capture is switched on in exactly three places (`f!(`, `with! ..:`, `cmd!`) and the captured text is used in
    exactly the three matching alternatives (table read off the regenerated actions) -/
theorem macro_sites_table :
    XV.Gen.macroTable =
      [("with_macro_stmt", 0, "handle_with_macro_stmt"), ("with_macro_start", 0, "handle_with_macro_start"), ("primary", 2, "macro_call"),
       ("func_macro_start", 0, "handle_func_macro_start"), ("proc_cmd", 6, "proc_macro_arg"), ("proc_cmd", 7, "proc_macro_arg"),
       ("proc_macro_start", 0, "handle_proc_macro_start")] := rfl

end XVC
