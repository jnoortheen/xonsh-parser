/-
  Certificate for C16: the recogniser IR of the SHIPPED peg_parser/parser.py and the IR of the module that
  tasks/generator.py generates from tasks/xonsh.gram in this run are the same program (same rules in the
  same order, same decorations, same alternatives, items, cuts and action kinds, same string and keyword
  tables).  Every theorem instantiated on the shipped parser therefore holds for what the grammar generates.
-/
import XonshVerif.Properties.C02
import XonshVerif.Generated.ParserIR
import XonshVerif.Generated.ParserIRRegen
import XonshVerif.Generated.Witness
import XonshCerts.Dead
namespace XVC
open XV XV.Peg

theorem regenerated_ir_equals_shipped :
    XV.GenRegen.prog = XV.Gen.prog ∧ XV.GenRegen.ruleNames = XV.Gen.ruleNames ∧ XV.GenRegen.strings = XV.Gen.strings ∧
    XV.GenRegen.keywords = XV.Gen.keywords ∧ XV.GenRegen.softKeywords = XV.Gen.softKeywords :=
  ⟨rfl, rfl, rfl, rfl, rfl⟩

theorem regenerated_ir_nonempty : 300 < XV.GenRegen.prog.size := by decide +kernel

/-- transfer: the inertness theorem, stated for the regenerated parser -/
theorem regenerated_xonsh_alternatives_inert (w : Array RTok) (hw : PyLex XV.Gen.lexicon w) (fuel start : Nat) :
    FiredOK XV.Gen.lexicon XV.GenRegen.prog XV.Gen.deadRules (parse XV.GenRegen.prog w fuel start).2.1 := by
  rw [regenerated_ir_equals_shipped.1]
  exact shipped_xonsh_alternatives_inert w hw fuel start

end XVC
