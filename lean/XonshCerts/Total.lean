/-
  C03 certificate (parser half): the shipped parser passes the well-formedness checker, hence - by
  `parse_total` - `Parser.parse` terminates on every token list.
-/
import XonshVerif.Proofs.PegTotal
import XonshVerif.Properties.C15
import XonshVerif.Properties.C03
import XonshVerif.Model.DriverMisc
import XonshCerts.Regex
import XonshVerif.Generated.ParserIR
import XonshVerif.Generated.WfWitness
namespace XVC
open XV XV.Peg

def shippedWf : WfW := WfW.packed XV.Gen.wfNullMask XV.Gen.wfLrMask XV.Gen.wfRankN

/-- no `repeated`/`gathered` body can succeed without consuming; every call chain that stays at one position descends
    in rank until it reaches a left-recursion leader (re-checked from the witnesses in one pass over the 347 rules) -/
theorem wf_cert : wfCert XV.Gen.prog shippedWf = true := by decide +kernel

/-- **C03, instantiated on the regenerated IR of the shipped parser**: for every token list, start rule and verbosity
    there is a fuel with which `Parser.parse` reaches a verdict in both passes: the recogniser never loops. -/
theorem shipped_parser_total (w : Array RTok) (start : Nat) (verbose : Bool) :
    ∃ fuel, (parse XV.Gen.prog w fuel start verbose).1 ≠ .outOfFuel :=
  parse_total wf_cert w start verbose

/-- **C03, the whole pipeline on the regenerated data**: for every text, every classification of non-ASCII characters and
    either start rule, the model of `parse_string` - the regexes regenerated from tokenize.py, the hand-written tokenizer and
    token-source models, the IR regenerated from parser.py - reaches a verdict; it never hangs. -/
theorem shipped_parse_string_total (E : XV.Rx.Env) (start : Nat) (src : List Nat) :
    ∃ fuel, (XV.Pipe.parseString E XV.Driver.genPats (XV.Driver.genTables start) fuel src).terminated :=
  XV.Pipe.parse_string_total E _ gen_pseudo_progress (XV.Driver.genTables start) shippedWf wf_cert src

/-- the shipped grammar has no rule that can succeed on the empty token string -/
theorem no_nullable_rule : XV.Gen.wfNullMask = 0 := by decide +kernel

/-- **C15**: the version gates of the shipped parser, by threshold: `except*` needs (3, 11); the `type` statement and type
    parameter lists need (3, 12).  (A new gate, a changed threshold, or a gate that disappears changes this list.) -/
theorem shipped_version_gates : progGates XV.Gen.prog = [11, 12, 12] := by decide +kernel

/-- with `py_version` at or above (3, 12) the option changes nothing in the shipped parser -/
theorem shipped_py_version_irrelevant_from_312 (v v' : Nat) (hv : 12 ≤ v) (hv' : 12 ≤ v') : gateProg v XV.Gen.prog = gateProg v' XV.Gen.prog := by
  have h12 : ∀ m ∈ progGates XV.Gen.prog, m ≤ 12 := by rw [shipped_version_gates]; decide
  exact py_version_irrelevant_above_all_gates _ v v' (fun m hm => Nat.le_trans (h12 m hm) hv) fun m hm => Nat.le_trans (h12 m hm) hv'

end XVC
