/-
  Certificates on the regular expressions regenerated from /repo/peg_parser/tokenize.py.
-/
import XonshVerif.Model.Regex
import XonshVerif.Generated.Regexes
import XonshVerif.Model.DriverTok
import XonshVerif.Properties.C03
import XonshVerif.Properties.C09
import XonshVerif.Properties.C08
namespace XVC
open XV XV.Rx XV.Tz

/-- the translator accepted every pattern (no construct outside the modelled fragment) -/
theorem regex_translation_complete : XV.Gen.translatorRefusals = 0 := by decide

/-- every branch of PseudoToken except `End` (which contains `\Z`) consumes at least one character;
    `End` is `\\\r?\n|\Z` and `\Z` only matches at the end of the line, where the scan loop has stopped -/
theorem pseudo_branches_progress :
    (XV.Gen.pseudoToken.filter (·.1 ≠ "End")).all (fun b => nonNull b.2) = true := by decide +kernel

theorem pseudo_branch_names :
    XV.Gen.pseudoToken.map (·.1) = ["Comment", "StringStart", "End", "NL", "SearchPath", "Number", "Special", "Name", "ws"] := rfl

/-- string bodies, f-string literal scanners and the spec scanner consume at least one character -/
theorem string_patterns_progress :
    XV.Gen.endpats.all (fun b => nonNull b.2) = true ∧ XV.Gen.startLBrace.all (fun b => nonNull b.2) = true
      ∧ nonNull XV.Gen.endRBrace = true := by decide +kernel

theorem quotes_covered :
    XV.Gen.endpats.map (·.1) = ["'", "\"", "'''", "\"\"\""] ∧ XV.Gen.startLBrace.map (·.1) = ["'", "\"", "'''", "\"\"\""] := by decide

/-- `XV.Ops.noEarlierPrefix` on strings: no entry is a proper prefix of an entry listed later -/
def noEarlierPrefix : List String → Bool
  | [] => true
  | x :: rest => rest.all (fun y => !(x.isPrefixOf y && x != y)) && noEarlierPrefix rest

theorem noEarlierPrefix_eq (l : List String) : noEarlierPrefix l = XV.Ops.noEarlierPrefix (l.map String.toList) := by
  induction l with
  | nil => rfl
  | cons x rest ih =>
    simp only [noEarlierPrefix, XV.Ops.noEarlierPrefix, List.map_cons, List.all_map, ih]
    congr 2; funext y
    have h1 : x.isPrefixOf y = x.toList.isPrefixOf y.toList := by
      rw [Bool.eq_iff_iff]; simp [String.isPrefixOf]
    have h2 : (x != y) = (x.toList != y.toList) := by
      rw [Bool.eq_iff_iff]; simp [String.toList_inj]
    simp [h1, h2]

/-- the certificate on code-point lists, in the form `XV.Ops.first_listed_is_longest` takes -/
theorem longest_operator_first_chars : XV.Ops.noEarlierPrefix (XV.Gen.ops.reverse.map String.toList) = true :=
  XV.Ops.noEarlierPrefix_of_sorted _ (XV.Ops.descending_pairwise _ (by decide +kernel))

/-- C09 longest-operator-first: the alternation of operators is built from `sorted(OPS, reverse=True)`, and in that list no
    operator is a proper prefix of one listed later -/
theorem longest_operator_first : noEarlierPrefix XV.Gen.ops.reverse = true :=
  (noEarlierPrefix_eq _).trans longest_operator_first_chars

/-- C09 maximal munch on the SHIPPED operator table (regenerated from `tokenize.OPS` on every run): whichever
    operator the ordered alternation takes first is at least as long as every operator of the table that is a prefix
    of the remaining text. -/
theorem shipped_operator_alternation_is_maximal_munch (text o : List Char)
    (h : XV.Ops.firstPrefix (XV.Gen.ops.reverse.map String.toList) text = some o) :
    ∀ o' ∈ XV.Gen.ops.reverse.map String.toList, o'.isPrefixOf text = true → o'.length ≤ o.length :=
  XV.Ops.first_listed_is_longest _ text o longest_operator_first_chars h

theorem tabsize_is_8 : XV.Gen.tabsize = 8 := by decide

/-- the hypothesis `PseudoProgress` of the tokenizer theorems, from `pseudo_branches_progress` -/
theorem gen_pseudo_progress : PseudoProgress XV.Driver.genPats := fun b hb hne =>
  List.all_eq_true.mp pseudo_branches_progress b (List.mem_filter.mpr ⟨hb, decide_eq_true hne⟩)

/-- **C03 (tokenizer), instantiated on the regexes of the working tree**: for every text and every
    classification of non-ASCII characters, the tokenizer model run on the shipped patterns terminates. -/
theorem shipped_tokenizer_total (E : Env) (src : List Nat) :
    (tokenize E XV.Driver.genPats src).err ≠ some .loopFuel :=
  tokenize_total E _ gen_pseudo_progress src

/-- what a table yields under a key is the pattern of an entry with that key, or the pattern that matches nothing: what holds
    of these holds of the answer -/
theorem lookupPat_ind {Q : Re → Prop} (l : List (String × Re)) (q : String) (h0 : Q (.set false []))
    (h : ∀ b ∈ l, b.1 = q → Q b.2) : Q (lookupPat l q) := by
  unfold lookupPat
  cases hf : l.find? (·.1 = q) with
  | none => exact h0
  | some b => exact h b (List.mem_of_find?_eq_some hf) (by simpa using List.find?_some hf)

theorem fstring_scanners_min_length :
    XV.Gen.startLBrace.all (fun b => decide (1 ≤ minLen b.2)) = true ∧ XV.Gen.endpats.all (fun b => decide (1 ≤ minLen b.2)) = true ∧
    1 ≤ minLen XV.Gen.endRBrace ∧ 3 ≤ minLen (lookupPat XV.Gen.endpats "'''") ∧ 3 ≤ minLen (lookupPat XV.Gen.endpats "\"\"\"") := by
  decide +kernel

/-- the f-string scanners consume what they report: the hypothesis `FstrLen` of `tokens_in_position_order` -/
theorem gen_fstr_len : FstrLen XV.Driver.genPats := by
  obtain ⟨h1, h2, h3, h4, h5⟩ := fstring_scanners_min_length
  have one (l : List (String × Re)) (h : l.all (fun b => decide (1 ≤ minLen b.2)) = true) (q : String) : 1 ≤ minLen (lookupPat l q) :=
    lookupPat_ind (Q := (1 ≤ minLen ·)) l q (Nat.le_refl 1) fun b hb _ => of_decide_eq_true (List.all_eq_true.mp h b hb)
  refine ⟨one _ h1, h3, ?_⟩
  intro tok
  unfold quoteOf
  simp only []
  split
  · rename_i hq
    simp only [Bool.or_eq_true, decide_eq_true_eq] at hq
    rcases hq with hq | hq
    · rw [hq]; exact h4
    · rw [hq]; exact h5
  · refine Nat.le_trans ?_ (one _ h2 _)
    rw [List.length_drop]; omega

/-- **C08 (ordering), instantiated on the regexes of the working tree**: on every text the tokenizer model finishes on,
    with the shipped patterns, the tokens are in non-decreasing, non-overlapping position order. -/
theorem shipped_tokens_in_position_order (E : Env) (src : List Nat) (hfin : (tokenize E XV.Driver.genPats src).err = none) :
    (tokenize E XV.Driver.genPats src).toks.Pairwise (fun a b => a.stop ≤ b.start) ∧
    ∀ t ∈ (tokenize E XV.Driver.genPats src).toks, t.start ≤ t.stop :=
  tokens_in_position_order E _ gen_pseudo_progress gen_fstr_len src hfin

theorem fstring_scanners_end_with_delimiter :
    XV.Gen.startLBrace.all (fun b => endsWith b.2 [123]) = true ∧ endsWith XV.Gen.endRBrace [125] = true ∧
    XV.Gen.endpats.all (fun b => endsWith b.2 (b.1.toList.map Char.toNat)) = true := by
  decide +kernel

/-- code points that went into a string without a NUL character come out again (`Char.ofNat` maps what is no code point to NUL) -/
theorem cps_of_strOfCps {w : List Nat} {q : String} (h : strOfCps w = q) (h0 : ∀ ch ∈ q.toList, ch.toNat ≠ 0) :
    q.toList.map Char.toNat = w := by
  subst h
  simp only [strOfCps, String.toList_ofList] at h0 ⊢
  induction w with
  | nil => rfl
  | cons c w ih =>
    obtain ⟨hc, hw⟩ := List.forall_mem_cons.mp h0
    rw [List.map_cons, List.map_cons, ih hw]
    congr 1
    unfold Char.ofNat at hc ⊢
    split
    · rfl
    · rename_i hv; simp [hv] at hc

/-- every match of an f-string scanner ends with the delimiter it reports: the hypothesis `FstrEnds` of
    `all_tokens_are_source_slices` -/
theorem gen_fstr_ends : FstrEnds XV.Driver.genPats := by
  obtain ⟨h1, h2, h3⟩ := fstring_scanners_end_with_delimiter
  refine ⟨fun q => lookupPat_ind (Q := (endsWith · _ = true)) _ q (endsWith_nothing _) fun b hb _ => List.all_eq_true.mp h1 b hb, h2, fun tok => ?_⟩
  -- the entry found under the key made of `quoteOf tok` ends with the characters of its key, which are `quoteOf tok` again
  refine lookupPat_ind (Q := (endsWith · _ = true)) XV.Gen.endpats _ (endsWith_nothing _) fun b hb hkey => ?_
  have hnul : ∀ k ∈ ["'", "\"", "'''", "\"\"\""], ∀ ch ∈ k.toList, ch.toNat ≠ 0 := by decide +kernel
  rw [← cps_of_strOfCps hkey.symm (hnul _ (quotes_covered.1 ▸ List.mem_map_of_mem hb))]
  exact List.all_eq_true.mp h3 b hb

/-- **C08 (text), instantiated on the working tree's patterns**: on every text the tokenizer model finishes on, every
    token is the source text between its coordinates. -/
theorem shipped_tokens_are_source_slices (E : Env) (src : List Nat) (hfin : (tokenize E XV.Driver.genPats src).err = none) :
    ∀ t ∈ (tokenize E XV.Driver.genPats src).toks, t.str = srcText (splitLines src []) t.start t.stop :=
  all_tokens_are_source_slices E _ gen_pseudo_progress gen_fstr_len gen_fstr_ends src hfin

theorem end_branch_only_continuation_chars :
    (XV.Gen.pseudoToken.filter (·.1 = "End")).all (fun b => onlyChars contChar b.2) = true := by decide +kernel

/-- the continuation branch reads nothing but backslash, CR and LF: the hypothesis `EndGap` of
    `gaps_are_indentation_or_continuation` -/
theorem gen_end_gap : EndGap XV.Driver.genPats := fun b hb hE =>
  List.all_eq_true.mp end_branch_only_continuation_chars b (List.mem_filter.mpr ⟨hb, decide_eq_true hE⟩)

/-- **C08 (gaps), instantiated on the working tree's patterns**: on every text the tokenizer model finishes on, the text before the
    first token and between consecutive tokens is made of indentation at a line's start and of backslash, CR and LF only. -/
theorem shipped_gaps_are_indentation_or_continuation (E : Env) (src : List Nat) (hfin : (tokenize E XV.Driver.genPats src).err = none) :
    Gaps (splitLines src []) ⟨1, 0⟩ (tokenize E XV.Driver.genPats src).toks :=
  gaps_are_indentation_or_continuation E _ gen_pseudo_progress gen_fstr_len gen_fstr_ends gen_end_gap src hfin

/-- Non-vacuity on the shipped patterns: `f"a{x:>{w}}b{f'{y}'}"⏎` finishes with 18 tokens, f-string parts included. -/
example : (tokenize ⟨[], []⟩ XV.Driver.genPats ("f\"a{x:>{w}}b{f'{y}'}\"\n".toList.map Char.toNat)).err = none ∧
    (tokenize ⟨[], []⟩ XV.Driver.genPats ("f\"a{x:>{w}}b{f'{y}'}\"\n".toList.map Char.toNat)).toks.length = 18 := by decide +kernel

/-- Non-vacuity of the gap theorem on the shipped patterns: in `if a:⏎  b⏎  c \⏎+ 1⏎` the gaps between consecutive tokens
    are empty except the indentation of the third line and the backslash continuation. -/
def gapSrc : List Nat := "if a:\n  b\n  c \\\n+ 1\n".toList.map Char.toNat
example : (let ts := (tokenize ⟨[], []⟩ XV.Driver.genPats gapSrc).toks
           (List.zip ts ts.tail).map (fun (a, b) => srcText (splitLines gapSrc []) a.stop b.start)) =
    [[], [], [], [], [], [], [], [32, 32], [], [92, 10], [], [], [], [], []] := by decide +kernel

end XVC
