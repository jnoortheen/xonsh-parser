/-
  Certificates for C01/C02/C05: the dead-rule witness computed by the translator is valid for the
  shipped parser, and the alternatives it kills are the xonsh alternatives we expect.
-/
import XonshVerif.Properties.C02
import XonshVerif.Generated.ParserIR
import XonshVerif.Generated.Witness
namespace XVC
open XV XV.Peg

/-- the witness passes the checker: by `xonsh_alternatives_inert` no dead alternative of the shipped
    parser ever fires on a token list of the Python lexicon -/
theorem dead_cert : deadCert XV.Gen.lexicon XV.Gen.prog XV.Gen.deadRules = true := by
  -- `a[i]?` on an array costs the kernel the size of `a` besides the walk to cell `i`; on `a.toList` only the walk
  unfold deadCert; simp only [← Array.getElem?_toList]; decide +kernel

def nameOf (i : Nat) : String := XV.Gen.ruleNames[i]?.getD "?"

/-- the named (non-helper) rules that are dead -/
theorem dead_rules_expected :
    ((XV.Gen.deadRules.map nameOf).filter (fun n => !n.startsWith "_tmp")) =
      ["with_macro_stmt", "with_macro_start", "func_macro_start", "sub_procs", "help_atom", "env_atom",
       "proc_macro_start", "search_path", "fstring_conversion", "invalid_conversion_character"] := by
  unfold nameOf; simp only [← Array.getElem?_toList]; decide +kernel

/-- the dead alternatives of LIVE named rules: exactly the xonsh alternatives of `with_stmt`, `primary`, `proc_cmd`,
    `atom`, the binding-target rule, and the conversion alternatives of the f-string diagnostics -/
theorem dead_alternatives_expected :
    (((deadAltsOf XV.Gen.lexicon XV.Gen.deadRules XV.Gen.prog).filter (fun x => !XV.Gen.deadRules.contains x.1)).map
        (fun x => (nameOf x.1, x.2))).filter (fun x => !x.1.startsWith "_tmp") =
      [("with_stmt", 1), ("primary", 2), ("primary", 5), ("primary", 6), ("primary", 7),
       ("proc_cmd", 0), ("proc_cmd", 1), ("proc_cmd", 2), ("proc_cmd", 3), ("proc_cmd", 4), ("proc_cmd", 5), ("proc_cmd", 6),
       ("atom", 0), ("target_with_star_atom", 2), ("target_with_star_atom", 3),
       ("invalid_replacement_field", 1), ("invalid_replacement_field", 7)] := by
  rw [deadAltsOf_eq]; unfold nameOf; simp only [← Array.getElem?_toList]; decide +kernel

/-- **C02 second sentence, instantiated on the shipped parser**: for every Python-lexicon token list, fuel and
    start rule, no xonsh alternative of the working tree's parser has its action run. -/
theorem shipped_xonsh_alternatives_inert (w : Array RTok) (hw : PyLex XV.Gen.lexicon w) (fuel start : Nat) :
    FiredOK XV.Gen.lexicon XV.Gen.prog XV.Gen.deadRules (parse XV.Gen.prog w fuel start).2.1 :=
  (xonsh_alternatives_inert _ _ _ w dead_cert hw fuel start).1

end XVC
