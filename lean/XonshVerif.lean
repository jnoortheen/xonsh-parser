import XonshVerif.Model.Basic
import XonshVerif.Proofs.ListAux
import XonshVerif.Model.Wire
import XonshVerif.Model.ProcArgs
import XonshVerif.Model.Driver
import XonshVerif.Proofs.ProcArgs
import XonshVerif.Proofs.ProcLayout
import XonshVerif.Properties.C06
import XonshVerif.Model.Peg
import XonshVerif.Proofs.PegStep
import XonshVerif.Proofs.PegSim
import XonshVerif.Generated.ParserIR
import XonshVerif.Model.Regex
import XonshVerif.Generated.Regexes
import XonshVerif.Model.Tokenize
import XonshVerif.Proofs.TokSteps
import XonshVerif.Proofs.Regex
import XonshVerif.Proofs.Tokenize
import XonshVerif.Properties.C03
import XonshVerif.Model.PegDead
import XonshVerif.Proofs.PegDead
import XonshVerif.Proofs.PegFired
import XonshVerif.Properties.C02
import XonshVerif.Model.Macro
import XonshVerif.Proofs.Macro
import XonshVerif.Model.Helpers
import XonshVerif.Model.TokenSource
import XonshVerif.Model.Pipeline
import XonshVerif.Model.ActionNull
import XonshVerif.Model.PegCost
import XonshVerif.Proofs.PegCost
import XonshVerif.Proofs.Tiling
import XonshVerif.Proofs.PegVerbose
import XonshVerif.Properties.C15
import XonshVerif.Proofs.TokShift
import XonshVerif.Proofs.TokCompose
import XonshVerif.Properties.C14
import XonshVerif.Model.Lines
import XonshVerif.Properties.C12
import XonshVerif.Properties.C17
import XonshVerif.Model.WireProg
import XonshVerif.Proofs.SrcText
import XonshVerif.Proofs.TokStack
import XonshVerif.Proofs.StringTiling
import XonshVerif.Properties.C08
import XonshVerif.Properties.C09
import XonshVerif.Properties.C04
import XonshVerif.Proofs.RegexMinLen
import XonshVerif.Model.PegWf
import XonshVerif.Proofs.PegMono
import XonshVerif.Proofs.PegTotal
import XonshVerif.Proofs.TokStructure
import XonshVerif.Proofs.PegGate
import XonshVerif.Proofs.TokCover
import XonshVerif.Proofs.TokOrder
import XonshVerif.Proofs.RegexSuffix
import XonshVerif.Proofs.RegexChars
import XonshVerif.Proofs.TokGaps
import XonshVerif.Model.WithMacro
import XonshVerif.Proofs.WithMacro
import XonshVerif.Model.Span
import XonshVerif.Proofs.Span
import XonshVerif.Properties.C04Span
import XonshVerif.Proofs.TokBounds
import XonshVerif.Properties.C11Tok
import XonshVerif.Model.Concat
import XonshVerif.Proofs.Concat
import XonshVerif.Proofs.FstringBalance
import XonshVerif.Properties.C10
import XonshVerif.Properties.C09Indent
import XonshVerif.Properties.C09Stack
import XonshVerif.Proofs.TokenSourceKeep
import XonshVerif.Proofs.PegFetch
import XonshVerif.Model.ProcMacro
import XonshVerif.Proofs.ProcMacro
import XonshVerif.Model.Desugar
import XonshVerif.Proofs.Desugar
import XonshVerif.Proofs.PegConsume
import XonshVerif.Proofs.PegSpec
import XonshVerif.Proofs.PegSpecInd
import XonshVerif.Proofs.PegSpecDet
import XonshVerif.Proofs.PegSpecDeco
import XonshVerif.Proofs.PegSpecRange
import XonshVerif.Proofs.PegComplete
