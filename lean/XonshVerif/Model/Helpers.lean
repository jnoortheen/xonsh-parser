/-
  Small hand-written helpers of peg_parser/subheader.py: `make_arguments`, `_build_syntax_error`.
  (Their theorems are short and live here with the definitions.)
-/
import XonshVerif.Model.Basic
namespace XV.Helpers
open XV

/-! ### `Parser.make_arguments` (peg_parser/subheader.py) -/

structure Arguments where
  posonlyargs : List Nat
  args        : List Nat
  defaults    : List Nat
  vararg      : Option Nat
  kwonlyargs  : List Nat
  kwDefaults  : List (Option Nat)
  kwarg       : Option Nat
deriving DecidableEq, Repr, Inhabited

/-- parameters are identified by numbers, a default by `some expr-id`; `None` lists are `none` -/
def makeArguments (posOnly : Option (List (Nat × Option Nat))) (posOnlyWithDefault : List (Nat × Option Nat))
    (paramNoDefault : Option (List Nat)) (paramDefault : Option (List (Nat × Option Nat)))
    (afterStar : Option (Option Nat × List (Nat × Option Nat) × Option Nat)) : Arguments :=
  let defaults := posOnlyWithDefault.filterMap (·.2) ++ (paramDefault.getD []).filterMap (·.2)
  -- `pos_only = pos_only or pos_only_with_default` (an empty list is falsy)
  let posOnly' := match posOnly with | some (x :: xs) => x :: xs | _ => posOnlyWithDefault
  let params := paramNoDefault.getD [] ++ (paramDefault.getD []).map (·.1)
  let star := afterStar.getD (none, [], none)
  { posonlyargs := posOnly'.map (·.1), args := params, defaults := defaults, vararg := star.1,
    kwonlyargs := star.2.1.map (·.1), kwDefaults := star.2.1.map (·.2), kwarg := star.2.2 }

/-- DESIGN section 3, `arguments_layout` (kw): `kw_defaults` and `kwonlyargs` always have the same length. -/
theorem kw_defaults_length (a b c d e) : (makeArguments a b c d e).kwDefaults.length = (makeArguments a b c d e).kwonlyargs.length := by
  simp [makeArguments]

/-- DESIGN section 3, `arguments_layout` (defaults): for the five call shapes of the grammar (the first argument is either
    `None`/empty or the second one is empty), there are never more defaults than positional parameters. -/
theorem defaults_le_positional (a b c d e) (hshape : a = none ∨ a = some [] ∨ b = []) :
    (makeArguments a b c d e).defaults.length ≤ (makeArguments a b c d e).posonlyargs.length + (makeArguments a b c d e).args.length := by
  have h1 : (b.filterMap (·.2)).length ≤ b.length := List.length_filterMap_le _ _
  have h2 : ((d.getD []).filterMap (·.2)).length ≤ (d.getD []).length := List.length_filterMap_le _ _
  rcases hshape with h | h | h
  · subst h; simp [makeArguments]; omega
  · subst h; simp [makeArguments]; omega
  · subst h
    simp only [makeArguments, List.filterMap_nil, List.nil_append, List.length_map, List.length_append]
    omega

/-- `args` keeps the order: the plain parameters as given, then the defaulted ones -/
theorem args_order (a b c d e) : (makeArguments a b c d e).args = c.getD [] ++ (d.getD []).map (·.1) := by
  simp [makeArguments]

/-! ### `Parser._build_syntax_error` -/

structure SynErr where
  lineno : Nat
  endLineno : Nat
  offset : Nat
  endOffset : Nat
  text : List Nat
deriving DecidableEq, Repr, Inhabited

/-- `"\\n".join(parts)` : the separator is the two characters backslash, n -/
def joinLines : List (List Nat) → List Nat
  | [] => []
  | [l] => l
  | l :: ls => l ++ [92, 110] ++ joinLines ls

/-- `_build_syntax_error(message, start, end)` with explicit positions; `lines n` is `get_lines`' answer for
    line `n` (the empty string for a line it does not know). -/
def buildError (lines : Nat → List Nat) (start stop : Pos) : SynErr :=
  { lineno := start.line, offset := start.col + 1, endLineno := stop.line, endOffset := stop.col + 1,
    text := joinLines ((List.range (stop.line + 1 - start.line)).map (fun i => lines (start.line + i))) }

theorem joinLines_prefix (l : List Nat) (ls : List (List Nat)) : ∃ t, joinLines (l :: ls) = l ++ t := by
  cases ls with
  | nil => exact ⟨[], by simp [joinLines]⟩
  | cons x xs => exact ⟨[92, 110] ++ joinLines (x :: xs), by simp [joinLines]⟩

/-- If the reported span starts at a position inside the source (`1 ≤ line ≤ n+1`,
    column within that line) and does not end before it starts, the exception has a line number in range, a 1-based
    column no larger than the line length plus one, an end not before the start, and a `text` that begins with
    the source line at the reported line number. -/
theorem error_wellformed (lines : Nat → List Nat) (n : Nat) (start stop : Pos)
    (hl1 : 1 ≤ start.line) (hl2 : start.line ≤ n + 1) (hcol : start.col ≤ (lines start.line).length)
    (hle : start ≤ stop) :
    let e := buildError lines start stop
    1 ≤ e.lineno ∧ e.lineno ≤ n + 1 ∧ 1 ≤ e.offset ∧ e.offset ≤ (lines e.lineno).length + 1 ∧
    (e.lineno < e.endLineno ∨ (e.lineno = e.endLineno ∧ e.offset ≤ e.endOffset)) ∧
    ∃ t, e.text = lines e.lineno ++ t := by
  have hline : start.line ≤ stop.line := hle.elim Nat.le_of_lt fun h => Nat.le_of_eq h.1
  refine ⟨hl1, hl2, Nat.succ_pos _, Nat.succ_le_succ hcol, hle.imp id fun h => ⟨h.1, Nat.succ_le_succ h.2⟩, ?_⟩
  show ∃ t, joinLines ((List.range (stop.line + 1 - start.line)).map fun i => lines (start.line + i)) = _
  rw [show stop.line + 1 - start.line = (stop.line - start.line) + 1 by omega, List.range_succ_eq_map, List.map_cons]
  exact joinLines_prefix _ _

end XV.Helpers
