/-
  Model of the token source `Tokenizer.peek/is_blank` (peg_parser/tokenizer.py) WITHOUT macro capture:
  which raw tokens the parser gets to see.
-/
import XonshVerif.Model.Tokenize
namespace XV.Src
open XV XV.Rx XV.Tz

/-- `is_blank(tok)` with `_proc_macro = False`; `prev` is the last kept token (`self._tokens[-1]`). -/
def isBlank (E : Env) (prev : Option Tok5) (t : Tok5) : Bool :=
  t.ty = .NL || t.ty = .COMMENT || t.ty = .WS ||
  (t.ty = .ERRORTOKEN && t.str.all E.isSpace) ||            -- `tok.string.isspace()` (non-empty: an ERRORTOKEN is one char)
  (t.ty = .NEWLINE && (match prev with | some p => p.ty = .NEWLINE | none => false))

/-- the kept tokens, in order (`acc` reversed) -/
def keepAux (E : Env) : List Tok5 → List Tok5 → List Tok5
  | [], acc => acc.reverse
  | t :: ts, acc => if isBlank E acc.head? t then keepAux E ts acc else keepAux E ts (t :: acc)

def kept (E : Env) (raw : List Tok5) : List Tok5 := keepAux E raw []

/-- The kept tokens without the accumulator: `prev` is the last token kept so far.  Every fact about `kept` is a plain
    induction over this function. -/
def keepFrom (E : Env) : Option Tok5 → List Tok5 → List Tok5
  | _, [] => []
  | prev, t :: ts => if isBlank E prev t then keepFrom E prev ts else t :: keepFrom E (some t) ts

theorem keepAux_eq (E : Env) (raw acc : List Tok5) : keepAux E raw acc = acc.reverse ++ keepFrom E acc.head? raw := by
  induction raw generalizing acc with
  | nil => simp [keepAux, keepFrom]
  | cons r rs ih => simp only [keepAux, keepFrom]; split <;> simp [ih]

theorem kept_eq (E : Env) (raw : List Tok5) : kept E raw = keepFrom E none raw := by simp [kept, keepAux_eq]

/-- no NL / COMMENT / WS token reaches the parser -/
theorem kept_no_trivia (E : Env) (raw : List Tok5) : ∀ t ∈ kept E raw, t.ty ≠ .NL ∧ t.ty ≠ .COMMENT ∧ t.ty ≠ .WS := by
  rw [kept_eq]
  fun_induction keepFrom E none raw with
  | case1 => exact fun _ h => nomatch h
  | case2 prev t ts hb ih => exact ih
  | case3 prev t ts hb ih =>
    refine List.forall_mem_cons.mpr ⟨?_, ih⟩
    simp only [isBlank, Bool.or_eq_true, decide_eq_true_eq, not_or] at hb
    exact ⟨hb.1.1.1.1, hb.1.1.1.2, hb.1.1.2⟩

/-- kept tokens are a sub-sequence of the raw tokens: order preserved, nothing invented -/
theorem kept_sublist (E : Env) (raw : List Tok5) : (kept E raw).Sublist raw := by
  rw [kept_eq]
  fun_induction keepFrom E none raw with
  | case1 => exact .slnil
  | case2 prev t ts hb ih => exact ih.cons _
  | case3 prev t ts hb ih => exact ih.cons_cons _

end XV.Src
