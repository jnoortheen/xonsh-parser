/-
  Induction over derivations of the declarative PEG semantics: one principle for the nine mutually inductive relations,
  with motives that do not mention the derivation (they are propositions).  Each family of facts about the semantics
  is one application.
-/
import XonshVerif.Proofs.PegSpec
namespace XV.Peg

/-- a property of every derivable judgement, one component per relation -/
structure SHolds (prog : Prog) (w : Array RTok)
    (MPrim : Prim → Nat → Option Nat → Prop) (MRule : Nat → Nat → Option Nat → Prop) (MBody : Body → Nat → Option Nat → Prop)
    (MSeq : List Prim → Nat → Option Nat → Prop) (MAlts : List Alt → Nat → Option Nat → Prop)
    (MItems : List AltItem → Nat → Bool → Option Nat → Bool → Prop) (MItem : Item → Nat → Option Nat → Prop)
    (MStar : Prim → Nat → Nat → Nat → Prop) (MSep : Prim → Prim → Nat → Nat → Nat → Prop) : Prop where
  prim : ∀ {q p r}, SPrim prog w q p r → MPrim q p r
  rule : ∀ {id p r}, SRule prog w id p r → MRule id p r
  body : ∀ {b p r}, SBody prog w b p r → MBody b p r
  seq : ∀ {ps p r}, SSeq prog w ps p r → MSeq ps p r
  alts : ∀ {as p r}, SAlts prog w as p r → MAlts as p r
  items : ∀ {its p c r c'}, SItems prog w its p c r c' → MItems its p c r c'
  item : ∀ {it p r}, SItem prog w it p r → MItem it p r
  star : ∀ {q p n e}, SStar prog w q p n e → MStar q p n e
  sep : ∀ {el sp p n e}, SSep prog w el sp p n e → MSep el sp p n e

variable {prog : Prog} {w : Array RTok}
  {MPrim : Prim → Nat → Option Nat → Prop} {MRule : Nat → Nat → Option Nat → Prop} {MBody : Body → Nat → Option Nat → Prop}
  {MSeq : List Prim → Nat → Option Nat → Prop} {MAlts : List Alt → Nat → Option Nat → Prop}
  {MItems : List AltItem → Nat → Bool → Option Nat → Bool → Prop} {MItem : Item → Nat → Option Nat → Prop}
  {MStar : Prim → Nat → Nat → Nat → Prop} {MSep : Prim → Prim → Nat → Nat → Nat → Prop}

/-- One minor premise per constructor: the premises of the constructor, then the motive for each derivation among them.
    (`a` and `it` carry their types because `a.items`, `it.item` on an untyped binder make this statement ten times dearer to elaborate.) -/
theorem SHolds.induct
    (prim_hit : ∀ q test p t, leafTest q = some test → w[p]? = some t → test t = true → MPrim q p (some (p + 1)))
    (prim_miss : ∀ q test p t, leafTest q = some test → w[p]? = some t → test t = false → MPrim q p none)
    (prim_rule : ∀ id p r, SRule prog w id p r → MRule id p r → MPrim (.rule id) p r)
    (rule_mk : ∀ id p r rule, prog[id]? = some rule → SBody prog w rule.body p r → MBody rule.body p r → MRule id p r)
    (body_seqAlts : ∀ ps p r, SSeq prog w ps p r → MSeq ps p r → MBody (.seqAlts ps) p r)
    (body_alts : ∀ as wo ul p r, SAlts prog w as p r → MAlts as p r → MBody (.alts as wo ul) p r)
    (seq_nil : ∀ p, MSeq [] p none)
    (seq_hit : ∀ q qs p e, SPrim prog w q p (some e) → MPrim q p (some e) → MSeq (q :: qs) p (some e))
    (seq_miss : ∀ q qs p r, SPrim prog w q p none → SSeq prog w qs p r → MPrim q p none → MSeq qs p r → MSeq (q :: qs) p r)
    (alts_nil : ∀ p, MAlts [] p none)
    (alts_hit : ∀ (a : Alt) as p e c, SItems prog w a.items p false (some e) c → MItems a.items p false (some e) c → MAlts (a :: as) p (some e))
    (alts_cut : ∀ (a : Alt) as p, SItems prog w a.items p false none true → MItems a.items p false none true → MAlts (a :: as) p none)
    (alts_miss : ∀ (a : Alt) as p r, SItems prog w a.items p false none false → SAlts prog w as p r →
      MItems a.items p false none false → MAlts as p r → MAlts (a :: as) p r)
    (items_nil : ∀ p c, MItems [] p c (some p) c)
    (items_setCut : ∀ o its p c r c', SItems prog w its p true r c' → MItems its p true r c' → MItems (⟨.setCut, o⟩ :: its) p c r c')
    (items_ok : ∀ (it : AltItem) its p q c r c', it.item ≠ .setCut → SItem prog w it.item p (some q) → SItems prog w its q c r c' →
      MItem it.item p (some q) → MItems its q c r c' → MItems (it :: its) p c r c')
    (items_skip : ∀ (it : AltItem) its p c r c', it.item ≠ .setCut → it.opt = true → SItem prog w it.item p none → SItems prog w its p c r c' →
      MItem it.item p none → MItems its p c r c' → MItems (it :: its) p c r c')
    (items_fail : ∀ (it : AltItem) its p c, it.item ≠ .setCut → it.opt = false → SItem prog w it.item p none → MItem it.item p none →
      MItems (it :: its) p c none c)
    (item_call : ∀ q p r, SPrim prog w q p r → MPrim q p r → MItem (.call q) p r)
    (item_seqAlts : ∀ ps p r, SSeq prog w ps p r → MSeq ps p r → MItem (.seqAlts ps) p r)
    (item_plusOk : ∀ q p n e, SStar prog w q p (n + 1) e → MStar q p (n + 1) e → MItem (.repeated q) p (some e))
    (item_plusFail : ∀ q p, SStar prog w q p 0 p → MStar q p 0 p → MItem (.repeated q) p none)
    (item_gatherOk : ∀ el sp p q n e, SSeq prog w [el] p (some q) → SSep prog w el sp q n e → MSeq [el] p (some q) → MSep el sp q n e →
      MItem (.gathered el sp) p (some e))
    (item_gatherFail : ∀ el sp p, SSeq prog w [el] p none → MSeq [el] p none → MItem (.gathered el sp) p none)
    (item_posOk : ∀ q p e, SPrim prog w q p (some e) → MPrim q p (some e) → MItem (.posLook q) p (some p))
    (item_posFail : ∀ q p, SPrim prog w q p none → MPrim q p none → MItem (.posLook q) p none)
    (item_negOk : ∀ q p, SPrim prog w q p none → MPrim q p none → MItem (.negLook q) p (some p))
    (item_negFail : ∀ q p e, SPrim prog w q p (some e) → MPrim q p (some e) → MItem (.negLook q) p none)
    (item_forced : ∀ q what p e, SPrim prog w q p (some e) → MPrim q p (some e) → MItem (.forced q what) p (some e))
    (star_stop : ∀ q p, SPrim prog w q p none → MPrim q p none → MStar q p 0 p)
    (star_step : ∀ q p e n e', SPrim prog w q p (some e) → SStar prog w q e n e' → MPrim q p (some e) → MStar q e n e' → MStar q p (n + 1) e')
    (sep_stopSep : ∀ el sp p, SPrim prog w sp p none → MPrim sp p none → MSep el sp p 0 p)
    (sep_stopElem : ∀ el sp p q, SPrim prog w sp p (some q) → SSeq prog w [el] q none → MPrim sp p (some q) → MSeq [el] q none → MSep el sp p 0 p)
    (sep_step : ∀ el sp p q r n e, SPrim prog w sp p (some q) → SSeq prog w [el] q (some r) → SSep prog w el sp r n e →
      MPrim sp p (some q) → MSeq [el] q (some r) → MSep el sp r n e → MSep el sp p (n + 1) e) :
    SHolds prog w MPrim MRule MBody MSeq MAlts MItems MItem MStar MSep := by
  -- the motives of the recursors take the derivation as well; unification does not find them, so they are given
  let m1 (q p r) (_ : SPrim prog w q p r) := MPrim q p r
  let m2 (id p r) (_ : SRule prog w id p r) := MRule id p r
  let m3 (b p r) (_ : SBody prog w b p r) := MBody b p r
  let m4 (ps p r) (_ : SSeq prog w ps p r) := MSeq ps p r
  let m5 (as p r) (_ : SAlts prog w as p r) := MAlts as p r
  let m6 (its p c r c') (_ : SItems prog w its p c r c') := MItems its p c r c'
  let m7 (it p r) (_ : SItem prog w it p r) := MItem it p r
  let m8 (q p n e) (_ : SStar prog w q p n e) := MStar q p n e
  let m9 (el sp p n e) (_ : SSep prog w el sp p n e) := MSep el sp p n e
  -- the nine recursors take the same 34 minor premises, in the order of the hypotheses: `feed` supplies them (an `assumption`
  -- for each searches the context 306 times); `@feed`, or the implicit indices of the field are abstracted before `C` is found
  have feed {C : Prop} (f : _ → _ → _ → _ → _ → _ → _ → _ → _ → _ → _ → _ → _ → _ → _ → _ → _ →
      _ → _ → _ → _ → _ → _ → _ → _ → _ → _ → _ → _ → _ → _ → _ → _ → _ → C) : C :=
    f prim_hit prim_miss prim_rule rule_mk body_seqAlts body_alts seq_nil seq_hit seq_miss alts_nil alts_hit alts_cut alts_miss
      items_nil items_setCut items_ok items_skip items_fail item_call item_seqAlts item_plusOk item_plusFail item_gatherOk item_gatherFail
      item_posOk item_posFail item_negOk item_negFail item_forced star_stop star_step sep_stopSep sep_stopElem sep_step
  exact ⟨@feed _ (@SPrim.rec prog w m1 m2 m3 m4 m5 m6 m7 m8 m9), @feed _ (@SRule.rec prog w m1 m2 m3 m4 m5 m6 m7 m8 m9),
    @feed _ (@SBody.rec prog w m1 m2 m3 m4 m5 m6 m7 m8 m9), @feed _ (@SSeq.rec prog w m1 m2 m3 m4 m5 m6 m7 m8 m9),
    @feed _ (@SAlts.rec prog w m1 m2 m3 m4 m5 m6 m7 m8 m9), @feed _ (@SItems.rec prog w m1 m2 m3 m4 m5 m6 m7 m8 m9),
    @feed _ (@SItem.rec prog w m1 m2 m3 m4 m5 m6 m7 m8 m9), @feed _ (@SStar.rec prog w m1 m2 m3 m4 m5 m6 m7 m8 m9),
    @feed _ (@SSep.rec prog w m1 m2 m3 m4 m5 m6 m7 m8 m9)⟩

end XV.Peg
