/-
  C10 / C01 - what `concatenate_strings` does to adjacent string literals and f-strings: nothing of the text and none of the
  replacement fields is lost or reordered, the merged f-string has no two adjacent literal parts and no empty literal part
  (as in CPython's trees), and a plain Constant comes out only when no f-string is among the parts.
-/
import XonshVerif.Model.Concat
import XonshVerif.Proofs.ListAux
namespace XV.Concat
open XV

/-- what a list of values says: literal characters (`inl`) and replacement fields (`inr id`), in order -/
def render : List Val → List (Nat ⊕ Nat)
  | [] => []
  | .const s _ _ _ _ :: vs => s.map .inl ++ render vs
  | .fmt i :: vs => .inr i :: render vs

def partsRender : List Part → List (Nat ⊕ Nat)
  | [] => []
  | .tok v _ _ _ _ :: ps => v.map .inl ++ partsRender ps
  | .joined vals _ _ :: ps => render vals ++ partsRender ps

theorem render_append (a b : List Val) : render (a ++ b) = render a ++ render b := by
  induction a with
  | nil => rfl
  | cons v vs ih => cases v <;> simp [render, ih]

theorem concatTokens_render {ss : List TokP} {c : Val} (h : concatTokens ss = some c) :
    render [c] = ((ss.map (·.value)).flatten).map .inl := by
  cases ss with
  | nil => simp [concatTokens] at h
  | cons t ts =>
    simp only [concatTokens] at h
    split at h
    · injection h with h; subst h; simp [render]
    · cases h

def hasJoined : List Part → Bool
  | [] => false
  | .tok _ _ _ _ _ :: ps => hasJoined ps
  | .joined _ _ _ :: _ => true

/-- the loop over the parts, in the two respects that matter: what its values say, and whether it saw an f-string -/
theorem gather_spec {parts : List Part} {values : List Val} {ss : List TokP} {seen : Bool} {out : List Val} {seen' : Bool}
    (h : gather parts values ss seen = some (out, seen')) :
    render out = render values ++ ((ss.map (·.value)).flatten).map .inl ++ partsRender parts ∧
    seen' = (seen || hasJoined parts) := by
  fun_induction gather parts values ss seen with
  | case1 => cases h; simp [partsRender, hasJoined]
  | case2 values ss seen hne =>
    simp only [Option.map_eq_some_iff, Prod.mk.injEq] at h
    obtain ⟨c, hc, rfl, rfl⟩ := h
    simp [render_append, concatTokens_render hc, partsRender, hasJoined]
  | case3 v b u a e rest values ss seen ih => simp [ih h, partsRender, hasJoined]
  | case4 vals a e rest values seen ih => simp [ih h, render_append, partsRender, hasJoined]
  | case5 vals a e rest values ss seen c hc _ ih =>
    rw [hc] at h
    rw [(ih h).1, (ih h).2, render_append, render_append, concatTokens_render hc]
    simp [partsRender, hasJoined]
  | case6 _ _ _ _ _ _ _ hc => rw [hc] at h; cases h

theorem consolidate_render (vs acc : List Val) : render (consolidate acc vs) = render acc ++ render vs := by
  fun_induction consolidate acc vs with
  | case1 acc => simp [render]
  | case2 acc vs s b u a e0 s2 b2 u2 a2 e2 hlast ih =>
    conv => rhs; rw [← List.dropLast_append_of_getLast? hlast]
    simp [ih, render_append, render]
  | case3 acc v vs hno ih =>
    rw [ih, render_append]
    cases v <;> simp [render, List.append_assoc]

theorem filter_render (vs : List Val) : render (vs.filter (fun v => !isEmptyStr v)) = render vs := by
  induction vs with
  | nil => rfl
  | cons v vs ih =>
    simp only [List.filter]
    cases hv : (!isEmptyStr v)
    · simp only []
      rw [ih]
      cases v with
      | const s b u a e =>
        simp only [isEmptyStr, Bool.not_eq_false', Bool.and_eq_true, List.isEmpty_iff] at hv
        rw [hv.1]; simp [render]
      | fmt i => simp [isEmptyStr] at hv
    · simp only []
      cases v <;> simp [render, ih]

/-- the three ways `concatenate_strings` ends, each with what the loop had gathered -/
theorem concatStrings_cases (parts : List Part) :
    concatStrings parts = .mixError ∨
    (∃ v, gather parts [] [] false = some ([v], false) ∧ concatStrings parts = .node v) ∨
    (∃ values seen a e, gather parts [] [] false = some (values, seen) ∧
      concatStrings parts = .joinedStr ((consolidate [] values).filter (fun v => !isEmptyStr v)) a e) := by
  unfold concatStrings
  split
  · exact .inl rfl
  · split
    · exact .inl rfl
    · split
      · exact .inr (.inl ⟨_, ‹_›, rfl⟩)
      · exact .inr (.inr ⟨_, _, _, _, ‹_›, rfl⟩)

/-- Whatever `concatenate_strings` returns without raising says exactly what the
    parts said: the same literal characters and the same replacement fields in the same order. -/
theorem concat_preserves_text_and_fields (parts : List Part) :
    (∀ v, concatStrings parts = .node v → render [v] = partsRender parts) ∧
    (∀ vals a e, concatStrings parts = .joinedStr vals a e → render vals = partsRender parts) := by
  rcases concatStrings_cases parts with h | ⟨v, hg, h⟩ | ⟨values, seen, a, e, hg, h⟩ <;> rw [h] <;>
    refine ⟨fun _ hv => ?_, fun _ _ _ hv => ?_⟩ <;> cases hv
  · simpa [render] using (gather_spec hg).1
  · rw [filter_render, consolidate_render]
    simpa [render] using (gather_spec hg).1

def isConst : Val → Bool
  | .const _ _ _ _ _ => true
  | .fmt _ => false

/-- no two neighbours are both literal parts -/
def noAdj : List Val → Bool
  | [] => true
  | [_] => true
  | x :: y :: r => !(isConst x && isConst y) && noAdj (y :: r)

theorem noAdj_snoc (l : List Val) (v : Val) :
    noAdj (l ++ [v]) = (noAdj l && (match l.getLast? with | some x => !(isConst x && isConst v) | none => true)) := by
  induction l with
  | nil => rfl
  | cons a l ih =>
    cases l with
    | nil => simp [noAdj]
    | cons b r =>
      simp only [List.cons_append, noAdj] at ih ⊢
      rw [ih]
      simp [List.getLast?_cons_cons, Bool.and_assoc]

theorem consolidate_noAdj (vs acc : List Val) (h : noAdj acc = true) : noAdj (consolidate acc vs) = true := by
  fun_induction consolidate acc vs with
  | case1 acc => exact h
  | case2 acc vs s b u a e0 s2 b2 u2 a2 e2 hlast ih =>
    apply ih
    rw [← List.dropLast_append_of_getLast? hlast, noAdj_snoc] at h
    rw [noAdj_snoc]
    simpa [isConst] using h
  | case3 acc v vs hno ih =>
    apply ih
    rw [noAdj_snoc, h, Bool.true_and]
    cases hg : acc.getLast? with
    | none => rfl
    | some x =>
      cases x with
      | fmt i => simp [isConst]
      | const s b u a e =>
        cases v with
        | fmt i => simp [isConst]
        | const s2 b2 u2 a2 e2 => exact (hno s b u a e s2 b2 u2 a2 e2 hg rfl).elim

theorem noAdj_tail {x : Val} {l : List Val} (h : noAdj (x :: l) = true) : noAdj l = true := by
  cases l with
  | nil => rfl
  | cons y r => simp only [noAdj, Bool.and_eq_true] at h; exact h.2

theorem noAdj_cons_fmt (i : Nat) (l : List Val) : noAdj (.fmt i :: l) = noAdj l := by
  cases l with
  | nil => rfl
  | cons y r => simp [noAdj, isConst]

/-- removing literal parts from a list without adjacent literal parts leaves one -/
theorem noAdj_filter (p : Val → Bool) (hp : ∀ v, p v = false → isConst v = true) (l : List Val) (h : noAdj l = true) :
    noAdj (l.filter p) = true := by
  induction l with
  | nil => rfl
  | cons x l ih =>
    have ht := ih (noAdj_tail h)
    simp only [List.filter]
    cases hx : p x
    · exact ht
    · simp only []
      cases x with
      | fmt i => rw [noAdj_cons_fmt]; exact ht
      | const s b u a e =>
        -- the next element of `l` is not a literal part, so it is kept
        cases l with
        | nil => rfl
        | cons y r =>
          simp only [noAdj, Bool.and_eq_true, Bool.not_eq_true'] at h
          have hy : p y = true := by
            cases hpy : p y
            · have h1 := h.1; rw [hp y hpy] at h1; cases h1
            · rfl
          simp only [List.filter, hy] at ht ⊢
          simp only [noAdj, Bool.and_eq_true, Bool.not_eq_true']
          exact ⟨h.1, ht⟩

/-- The values of a merged f-string never hold two adjacent literal parts, and never an
    empty (text) literal part - the shape CPython gives its `JoinedStr` nodes. -/
theorem joined_parts_are_normalised (parts : List Part) (vals : List Val) (a e : Pos) (h : concatStrings parts = .joinedStr vals a e) :
    noAdj vals = true ∧ ∀ v ∈ vals, isEmptyStr v = false := by
  rcases concatStrings_cases parts with h' | ⟨_, _, h'⟩ | ⟨values, _, _, _, _, h'⟩ <;> rw [h'] at h <;> cases h
  refine ⟨noAdj_filter _ (fun v hv => ?_) _ (consolidate_noAdj values [] rfl), fun v hv => ?_⟩
  · cases v with
    | fmt i => simp [isEmptyStr] at hv
    | const s b u a e => rfl
  · simpa using (List.mem_filter.mp hv).2

/-- A plain Constant comes out only when no f-string is among the parts; with an f-string
    among them the result is a JoinedStr (or the bytes/str mix error). -/
theorem constant_only_without_fstring (parts : List Part) (v : Val) (h : concatStrings parts = .node v) : hasJoined parts = false := by
  rcases concatStrings_cases parts with h' | ⟨_, hg, _⟩ | ⟨_, _, _, _, _, h'⟩
  · rw [h'] at h; cases h
  · simpa using ((gather_spec hg).2).symm
  · rw [h'] at h; cases h

/-- Non-vacuity: `'a' f'{x}b' 'c' ''` - the literal parts around the field are merged, the empty one disappears. -/
example : concatStrings [.tok [97] false false ⟨1, 0⟩ ⟨1, 3⟩, .joined [.fmt 7, .const [98] false false ⟨1, 9⟩ ⟨1, 10⟩] ⟨1, 4⟩ ⟨1, 11⟩,
      .tok [99] false false ⟨1, 12⟩ ⟨1, 15⟩, .tok [] false false ⟨1, 16⟩ ⟨1, 18⟩] =
    .joinedStr [.const [97] false false ⟨1, 0⟩ ⟨1, 3⟩, .fmt 7, .const [98, 99] false false ⟨1, 9⟩ ⟨1, 18⟩] ⟨1, 0⟩ ⟨1, 18⟩ := by decide

end XV.Concat
