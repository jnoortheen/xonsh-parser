/-
  Two more sound syntactic analyses of the regular expressions (next to `nonNull` and `minLen`):
  `fixedLen r = some n` - every match of `r` consumes exactly `n` characters;
  `endsWith r w = true` - every match of `r` ends with the literal characters `w`.
  Used for the text of FSTRING_END and of the brace operators the f-string scanner emits (C08).
-/
import XonshVerif.Proofs.RegexMinLen
namespace XV.Rx

def fixedLen : Re → Option Nat
  | .eps => some 0
  | .chr _ | .notChr _ | .any | .set _ _ => some 1
  | .seq a b => match fixedLen a, fixedLen b with
    | some x, some y => some (x + y)
    | _, _ => none
  | .alt a b => match fixedLen a, fixedLen b with
    | some x, some y => if x = y then some x else none
    | _, _ => none
  | .star _ _ => none
  | .look _ _ => some 0
  | .eoi => some 0

theorem fixedLen_seq {a b : Re} {n : Nat} (h : fixedLen (.seq a b) = some n) :
    ∃ x y, fixedLen a = some x ∧ fixedLen b = some y ∧ n = x + y := by
  simp only [fixedLen] at h
  split at h
  · exact ⟨_, _, ‹_›, ‹_›, (Option.some.inj h).symm⟩
  · cases h

theorem fixedLen_alt {a b : Re} {n : Nat} (h : fixedLen (.alt a b) = some n) :
    fixedLen a = some n ∧ fixedLen b = some n := by
  simp only [fixedLen] at h
  split at h
  · split at h
    · cases h; exact ⟨‹_›, ‹_ = _› ▸ ‹_›⟩
    · cases h
  · cases h

theorem Reach.fixedLen {E : Env} {s : Array Nat} {r : Re} {p q : Nat} (h : Reach E s r p q) :
    ∀ {n}, fixedLen r = some n → q = p + n := by
  induction h with
  | seq _ _ iha ihb =>
    intro n hn
    obtain ⟨x, y, ha, hb, rfl⟩ := fixedLen_seq hn
    rw [ihb hb, iha ha, Nat.add_assoc]
  | altL _ ih => exact fun hn => ih (fixedLen_alt hn).1
  | altR _ ih => exact fun hn => ih (fixedLen_alt hn).2
  | starNil | starCons => exact fun hn => nomatch hn
  | _ => exact fun hn => Option.some.inj hn ▸ rfl

/-- `Reach.fixedLen` said of the matcher (`m_restrict`) -/
theorem m_fixedLen (E : Env) (s : Array Nat) : ∀ (fuel : Nat) (r : Re) (pos : Nat) (k : Nat → MR) (n : Nat), fixedLen r = some n →
    m E s fuel r pos k = m E s fuel r pos (restrict (fun q => q == pos + n) k) :=
  fun fuel _ _ k _ hn => m_restrict (fun _ hq => beq_iff_eq.mpr (hq.fixedLen hn)) fuel k

/-- the `|w|` characters before `q` are `w` -/
def sufB (s : Array Nat) (w : List Nat) (q : Nat) : Bool := decide (w.length ≤ q ∧ (s.extract (q - w.length) q).toList = w)

/-- `sufB` without the subtraction: the text from some `a` to `q` is `w` -/
theorem sufB_iff {s : Array Nat} {w : List Nat} {q : Nat} :
    sufB s w q = true ↔ ∃ a, a + w.length = q ∧ (s.extract a q).toList = w := by
  simp only [sufB, decide_eq_true_eq]
  constructor
  · rintro ⟨h1, h2⟩; exact ⟨q - w.length, Nat.sub_add_cancel h1, h2⟩
  · rintro ⟨a, rfl, h⟩; exact ⟨Nat.le_add_left _ _, by rwa [Nat.add_sub_cancel]⟩

theorem sufB_chr {s : Array Nat} {pos c : Nat} (h : s[pos]? = some c) : sufB s [c] (pos + 1) = true := by
  obtain ⟨hlt, rfl⟩ := Array.getElem?_eq_some_iff.mp h
  refine sufB_iff.mpr ⟨pos, rfl, ?_⟩
  rw [Array.extract_succ_right (Nat.lt_succ_self _) hlt, Array.extract_empty_of_stop_le_start (Nat.le_refl _)]
  rfl

theorem sufB_append {s : Array Nat} {w1 w2 : List Nat} {p q : Nat} (h1 : sufB s w1 p = true) (h2 : sufB s w2 q = true)
    (hq : q = p + w2.length) : sufB s (w1 ++ w2) q = true := by
  obtain ⟨a1, rfl, e1⟩ := sufB_iff.mp h1
  obtain ⟨a2, ha2, e2⟩ := sufB_iff.mp h2
  obtain rfl : a2 = a1 + w1.length := Nat.add_right_cancel (ha2.trans hq)
  refine sufB_iff.mpr ⟨a1, by rw [List.length_append, hq, Nat.add_assoc], ?_⟩
  rw [← e1, ← e2, ← Array.toList_append, Array.extract_append_extract,
    Nat.min_eq_left (Nat.le_add_right _ _), Nat.max_eq_right (hq ▸ Nat.le_add_right _ _)]

/-- every match of `r` ends with the literal `w` (sound, not complete) -/
def endsWith : Re → List Nat → Bool
  | _, [] => true
  | .set false [], _ => true                      -- matches nothing at all
  | .chr c, [d] => c = d
  | .seq a b, w =>
    endsWith b w ||
      (match fixedLen b with
       | some n => decide (n ≤ w.length) && endsWith b (w.drop (w.length - n)) && endsWith a (w.take (w.length - n))
       | none => false)
  | .alt a b, w => endsWith a w && endsWith b w
  | _, _ => false

theorem endsWith_nothing (w : List Nat) : endsWith (.set false []) w = true := by cases w <;> simp [endsWith]

theorem Reach.endsWith {E : Env} {s : Array Nat} {r : Re} {p q : Nat} (h : Reach E s r p q) :
    ∀ {w}, endsWith r w = true → sufB s w q = true := by
  have nil (q) : sufB s [] q = true := by simp [sufB]
  induction h
  all_goals intro w hw; rcases w with _ | ⟨d, ds⟩; · exact nil _
  case chr hc =>
    cases ds with
    | cons => simp [Rx.endsWith] at hw
    | nil => simp only [Rx.endsWith, decide_eq_true_eq] at hw; exact hw ▸ sufB_chr hc
  case set neg items _ _ _ hany => cases neg <;> cases items <;> simp [Rx.endsWith] at hw hany
  case seq q e _ hb iha ihb =>
    simp only [Rx.endsWith, Bool.or_eq_true] at hw
    rcases hw with hw | hw
    · exact ihb hw
    · -- `b` reads exactly the last `n` characters of `w`; the others end the match of `a`
      split at hw
      · rename_i n hn
        simp only [Bool.and_eq_true, decide_eq_true_eq] at hw
        have := sufB_append (iha hw.2) (ihb hw.1.2) (by rw [List.length_drop, Nat.sub_sub_self hw.1.1]; exact hb.fixedLen hn)
        rwa [List.take_append_drop] at this
      · cases hw
  case altL ih => exact ih (by simp only [Rx.endsWith, Bool.and_eq_true] at hw; exact hw.1)
  case altR ih => exact ih (by simp only [Rx.endsWith, Bool.and_eq_true] at hw; exact hw.2)
  all_goals simp [Rx.endsWith] at hw

/-- `Reach.endsWith` said of the matcher (`m_restrict`) -/
theorem m_endsWith (E : Env) (s : Array Nat) : ∀ (fuel : Nat) (r : Re) (pos : Nat) (k : Nat → MR) (w : List Nat), endsWith r w = true →
    m E s fuel r pos k = m E s fuel r pos (restrict (sufB s w) k) :=
  fun fuel _ _ k _ hw => m_restrict (fun _ hq => hq.endsWith hw) fuel k

theorem matchAt_endsWith (E : Env) (fuel : Nat) (r : Re) (s : Array Nat) (pos e : Nat) (w : List Nat) (hw : endsWith r w = true)
    (h : matchAt E fuel r s pos = .matched e) : w.length ≤ e ∧ (s.extract (e - w.length) e).toList = w := by
  simpa only [sufB, decide_eq_true_eq] using (matchAt_reach h).endsWith hw

end XV.Rx
