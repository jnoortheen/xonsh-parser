/-
  Small facts that core does not have and that several parts of the development share.  About lists: a list with a last
  element, adjacent slices, the pigeonhole, a table indexed position by position read as one pass, a checker that walks a list
  with a running index.  And `XV.ite_ind`, the case split on an `if` as a lemma.
-/
namespace List

/-- a list with a last element is its `dropLast` and that element (a stack kept bottom first, an accumulator) -/
theorem dropLast_append_of_getLast? {α : Type _} {l : List α} {a : α} (h : l.getLast? = some a) : l.dropLast ++ [a] = l := by
  have hne : l ≠ [] := fun hc => by simp [hc] at h
  rw [getLast?_eq_some_getLast hne] at h
  exact Option.some.inj h ▸ dropLast_concat_getLast hne

/-- adjacent slices of a list make one slice -/
theorem take_drop_append_take_drop {α : Type _} (l : List α) {a b c : Nat} (hab : a ≤ b) (hbc : b ≤ c) :
    (l.drop a).take (b - a) ++ (l.drop b).take (c - b) = (l.drop a).take (c - a) := by
  rw [← Nat.sub_add_sub_cancel hbc hab, Nat.add_comm, take_add, drop_drop, Nat.add_sub_cancel' hab]

/-- pigeonhole: a duplicate-free list inside a list that is no longer holds all of it (an element left over could be put in
    front of the duplicate-free list) -/
theorem Nodup.subset_of_length_le {α : Type _} {l m : List α} (hnd : l.Nodup) (hsub : l ⊆ m) (hlen : m.length ≤ l.length) : m ⊆ l :=
  fun _ hy => Classical.byContradiction fun hn => Nat.not_succ_le_self _ <| Nat.le_trans
    ((nodup_cons.mpr ⟨hn, hnd⟩).length_le_of_subset (cons_subset.mpr ⟨hy, hsub⟩)) hlen

/-- `List.range` with `l[i]?` as one pass over `zipIdx` (for checkers that index a table by position: the kernel pays a
    walk of `i` cells for every `l[i]?`) -/
theorem map_range_getElem? {α β} (l : List α) (g : Nat → Option α → β) :
    (range l.length).map (fun i => g i l[i]?) = l.zipIdx.map (fun p => g p.2 (some p.1)) := by
  apply ext_getElem <;> simp +contextual

theorem flatMap_range_getElem? {α β} (l : List α) (g : Nat → Option α → List β) :
    (range l.length).flatMap (fun i => g i l[i]?) = l.zipIdx.flatMap (fun p => g p.2 (some p.1)) := by
  rw [flatMap_def, map_range_getElem?, ← flatMap_def]

theorem filterMap_range_getElem? {α β} (l : List α) (g : Nat → Option α → Option β) :
    (range l.length).filterMap (fun i => g i l[i]?) = l.zipIdx.filterMap (fun p => g p.2 (some p.1)) := by
  simpa only [filterMap_map, Function.id_comp] using congrArg (filterMap id) (map_range_getElem? l g)

/-- two tables of the same length read position by position, as one pass over `zip` -/
theorem filter_range_map_getD {α β} (l : List α) (m : List β) (h : l.length = m.length) (p : α → Bool) (d : β) :
    ((range l.length).filter fun i => (l[i]?.map p).getD false).map (fun i => m[i]?.getD d) = ((l.zip m).filter fun x => p x.1).map (·.2) := by
  induction l generalizing m with
  | nil => rfl
  | cons a l ih =>
    obtain _ | ⟨b, m⟩ := m
    · cases h
    · rw [length_cons, range_succ_eq_map, filter_cons, filter_map, zip_cons_cons, filter_cons]
      cases hp : p a <;>
        simp only [getElem?_cons_zero, Option.map_some, hp, Option.getD_some, Bool.false_eq_true, if_false, if_true, Function.comp_def,
          Nat.succ_eq_add_one, getElem?_cons_succ, map_cons, map_map, ih m (Nat.succ.inj h)]

/-- a checker that walks a list with a running index and asks `f` of every element is `all` over `zipIdx` (the certificate
    checkers over the rules of a program: what passing means, and a form in which `f` can be replaced by an equal test) -/
theorem walk_eq {α : Type} {f : Nat → α → Bool} {aux : List α → Nat → Bool} (hnil : ∀ i, aux [] i = true)
    (hcons : ∀ x xs i, aux (x :: xs) i = (f i x && aux xs (i + 1))) (l : List α) (i : Nat) :
    aux l i = (l.zipIdx i).all fun p => f p.2 p.1 := by
  induction l generalizing i with
  | nil => exact hnil i
  | cons x xs ih => rw [hcons, ih, zipIdx_cons, all_cons]

end List

/-- a property of an `if` from the property of its branches (`split` does the same at many times the cost) -/
theorem XV.ite_ind {α : Sort _} {Q : α → Prop} {c : Prop} [Decidable c] {x y : α} (ht : c → Q x) (hf : ¬c → Q y) :
    Q (if c then x else y) := by
  by_cases h : c
  · rw [if_pos h]; exact ht h
  · rw [if_neg h]; exact hf h

