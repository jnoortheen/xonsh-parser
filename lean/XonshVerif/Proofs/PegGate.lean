/-
  C15 (py_version half): lowering the version can only turn acceptance of a gated alternative into a raised SyntaxError.
  `gateProg v` and `gateProg v'` for v <= v' differ only in that some actions are `raises` in the first and `truthy` in the
  second, so by `execRule_eq_unless` the two runs are equal until the first such action; there the first raises.
-/
import XonshVerif.Proofs.PegSim
namespace XV.Peg

theorem isAbort_raised' : Res.raised.isAbort = true := rfl

theorem gateAlt_le (v v' : Nat) (h : v ≤ v') (a : Alt) : AltLe (· = .raised) (gateAlt v a) (gateAlt v' a) := by
  unfold gateAlt
  cases hact : a.act with
  | gate m =>
    simp only []
    refine ⟨rfl, rfl, ?_⟩
    by_cases h1 : m ≤ v
    · have h2 : m ≤ v' := Nat.le_trans h1 h
      simp only [h1, h2, if_true]; exact Or.inl rfl
    · by_cases h2 : m ≤ v'
      · simp only [h1, h2, if_true, if_false]; exact Or.inr ⟨rfl, rfl, rfl⟩
      · simp only [h1, h2, if_false]; exact Or.inl rfl
  | _ => exact ⟨rfl, rfl, Or.inl rfl⟩

theorem gateProg_le (prog : Prog) (v v' : Nat) (h : v ≤ v') : ProgLe (· = .raised) (gateProg v prog) (gateProg v' prog) := by
  intro id
  unfold gateProg
  cases hr : prog[id]? with
  | none => left; simp [hr]
  | some r =>
    refine .inr ⟨gateRule v r, gateRule v' r, by simp [hr], by simp [hr], rfl, ?_⟩
    cases hb : r.body with
    | alts as wo ul =>
      simp only [gateRule, gateBody, hb]
      refine ⟨?_, rfl, rfl⟩
      clear hb
      induction as with
      | nil => exact .nil
      | cons a as ih => exact .cons (gateAlt_le v v' h a) ih
    | seqAlts ps => simp [gateRule, gateBody, BodyLe, hb]
    | unmodelled => simp [gateRule, gateBody, BodyLe, hb]

theorem parse_gate_mono (prog : Prog) (w : Array RTok) (n start : Nat) (vb : Bool) (v v' : Nat) (h : v ≤ v') :
    (parse (gateProg v prog) w n start vb).1 = .raised ∨
      parse (gateProg v prog) w n start vb = parse (gateProg v' prog) w n start vb := by
  have key := execRule_eq_unless (E := (· = .raised)) (w := w) (n := n) (fun _ h => h ▸ rfl) (gateProg_le prog v v' h) (.inl rfl) start
  rw [parse_eq rfl rfl, parse_eq rfl rfl]
  rcases key (St.init w.size false vb) with h1 | h1
  · rw [h1]; exact .inl rfl
  · rw [← h1]
    apply ite_ind (Q := fun r => _ ∨ _ = r) <;> intro hc
    · rw [if_pos hc]; exact .inr rfl
    · rw [if_neg hc]
      rcases key ((execRule (gateProg v prog) w n start (St.init w.size false vb)).2.second w) with h2 | h2
      · rw [h2]; exact .inl rfl
      · rw [h2]; exact .inr rfl

theorem gateAlt_saturated (v v' : Nat) (a : Alt) (h : ∀ m, a.act = .gate m → m ≤ v ∧ m ≤ v') : gateAlt v a = gateAlt v' a := by
  unfold gateAlt
  cases hact : a.act with
  | gate m => obtain ⟨h1, h2⟩ := h m hact; simp [h1, h2]
  | _ => rfl

end XV.Peg
