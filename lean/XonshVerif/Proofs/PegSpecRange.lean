/-
  C17 / C04 - matches of the declarative PEG semantics are forward ranges inside the token list: a rule that matches from `p`
  ends at some `e` with `p ≤ e ≤ max p w.size`.  Induction on the derivation.
-/
import XonshVerif.Proofs.PegSpecInd
namespace XV.Peg
variable {P : Prog} {w : Array RTok}

/-- `max`: from a `p` beyond the end of the token list there is only the empty match -/
def Rng (w : Array RTok) (p e : Nat) : Prop := p ≤ e ∧ e ≤ max p w.size

theorem Rng.refl (p : Nat) : Rng w p p := ⟨Nat.le_refl _, Nat.le_max_left _ _⟩
theorem Rng.trans {p q e : Nat} (h1 : Rng w p q) (h2 : Rng w q e) : Rng w p e :=
  ⟨Nat.le_trans h1.1 h2.1, Nat.le_trans h2.2 (Nat.max_le.mpr ⟨h1.2, Nat.le_max_right ..⟩)⟩

def Fwd (w : Array RTok) (p : Nat) (r : Option Nat) : Prop := ∀ e, r = some e → Rng w p e

theorem Fwd.none {p : Nat} : Fwd w p none := nofun
theorem Fwd.some {p e : Nat} (h : Rng w p e) : Fwd w p (some e) := fun _ he => Option.some.inj he ▸ h
theorem Fwd.after {p q : Nat} {r : Option Nat} (h1 : Rng w p q) (h2 : Fwd w q r) : Fwd w p r := fun e he => h1.trans (h2 e he)

theorem rng_holds : SHolds P w (fun _ => Fwd w) (fun _ => Fwd w) (fun _ => Fwd w) (fun _ => Fwd w) (fun _ => Fwd w)
    (fun _ p _ r _ => Fwd w p r) (fun _ => Fwd w) (fun _ p _ e => Rng w p e) (fun _ _ p _ e => Rng w p e) := by
  apply SHolds.induct
  case prim_hit =>
    intro _ _ p _ _ hw _
    exact .some ⟨Nat.le_succ p, Nat.le_trans (Array.getElem?_eq_some_iff.mp hw).1 (Nat.le_max_right ..)⟩
  case items_ok => exact fun _ _ _ q _ _ _ _ _ _ hi hs => .after (hi q rfl) hs
  case item_plusOk => exact fun _ _ _ _ _ h => .some h
  case item_gatherOk => exact fun _ _ _ q _ _ _ _ h hs => .some ((h q rfl).trans hs)
  case star_step => exact fun _ _ e _ _ _ _ h hs => (h e rfl).trans hs
  case sep_step => exact fun _ _ _ q r _ _ _ _ _ h hs hss => ((h q rfl).trans (hs r rfl)).trans hss
  case items_nil | item_posOk | item_negOk => intros; exact .some (.refl _)
  case star_stop | sep_stopSep | sep_stopElem => intros; exact .refl _
  case prim_miss | seq_nil | alts_nil | alts_cut | items_fail | item_plusFail | item_gatherFail | item_posFail | item_negFail =>
    intros; exact .none
  -- the other constructors hand on the outcome of their last premise
  all_goals intros; assumption

theorem SPrim.rng {x : Prim} {p : Nat} {r : Option Nat} (h : SPrim P w x p r) : ∀ e, r = some e → Rng w p e := rng_holds.prim h
theorem SRule.rng {id : Nat} {p : Nat} {r : Option Nat} (h : SRule P w id p r) : ∀ e, r = some e → Rng w p e := rng_holds.rule h
theorem SBody.rng {b : Body} {p : Nat} {r : Option Nat} (h : SBody P w b p r) : ∀ e, r = some e → Rng w p e := rng_holds.body h
theorem SSeq.rng {ps : List Prim} {p : Nat} {r : Option Nat} (h : SSeq P w ps p r) : ∀ e, r = some e → Rng w p e := rng_holds.seq h
theorem SAlts.rng {as : List Alt} {p : Nat} {r : Option Nat} (h : SAlts P w as p r) : ∀ e, r = some e → Rng w p e := rng_holds.alts h
theorem SItems.rng {its : List AltItem} {p : Nat} {c : Bool} {r : Option Nat} {c' : Bool}
    (h : SItems P w its p c r c') : ∀ e, r = some e → Rng w p e := rng_holds.items h
theorem SItem.rng {it : Item} {p : Nat} {r : Option Nat} (h : SItem P w it p r) : ∀ e, r = some e → Rng w p e := rng_holds.item h
theorem SStar.rng {q : Prim} {p k e : Nat} (h : SStar P w q p k e) : Rng w p e := rng_holds.star h
theorem SSep.rng {el sp : Prim} {p k e : Nat} (h : SSep P w el sp p k e) : Rng w p e := rng_holds.sep h
end XV.Peg
