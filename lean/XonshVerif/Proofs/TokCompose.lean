/-
  C14 (tokenizer level) - what follows a text that ends in a neutral state (no open bracket, string, continuation or
  indentation) are exactly the tokens of the rest of the text alone, shifted by the number of lines read.  Three steps:
  the line loop shifted and behind given tokens (`tokenizeLines_after`), the line loop split at any line (`runLines`,
  `tokenizeLines_append`), and a neutral state is the initial one but for the line counter (`tokenizeLines_neutral`).
-/
import XonshVerif.Proofs.TokShift
import XonshVerif.Proofs.TokSteps
namespace XV.Tz
open XV XV.Rx

/-- The line loop on a state whose line counter (with the start coordinates of its open strings) is `k` higher, with
    tokens `pre` in front of the accumulator: the same result - tokens or error - `k` lines down, after `pre`.  One walk for
    both facts the composition theorem needs: the tokenizer only copies `lnum`, and it only appends to the accumulator. -/
theorem tokenizeLines_after (k : Nat) (pre : List Tok5) (E : Env) (P : Pats) :
    ∀ (fuel : Nat) (lines : List (List Nat)) (s : TState) (acc : List Tok5),
    tokenizeLines E P fuel lines (shSt k s) (pre ++ acc.map (shTok k)) =
      emap (fun r => (shErr k r.1, pre ++ r.2.map (shTok k))) (fun ts => pre ++ ts.map (shTok k)) (tokenizeLines E P fuel lines s acc) := by
  intro fuel
  induction fuel with
  | zero => exact fun _ _ _ => rfl
  | succ fuel ih =>
    intro lines s acc
    rw [tokenizeLines, tokenizeLines, moveNextLine_sh, lineHead_sh, shSt_line]
    cases hlh : lineHead E P (s.moveNextLine (lines.headD [])) with
    | error e => rfl
    | ok r =>
      obtain ⟨s1, ts, cont, brk⟩ := r
      have hl : s1.lnum = s.lnum + 1 := lineHead_frame (.moveNextLine _ _) hlh
      simp only [emap_ok, shLH]
      refine ite_both _ (fun _ => ?_) fun _ => ite_both _ (fun _ => ?_) fun _ => ?_
      · rw [nextEndTokens_sh k _ _ s1 (by omega)]
        simp [List.map_append]
      · refine (congrArg (tokenizeLines E P fuel _ _) ?_).trans (ih lines.tail s1 (acc ++ ts))
        simp only [List.map_append, List.append_assoc]
      · have hs := scanLine_after k pre E P (2 * s1.max + 4) s1 (acc ++ ts)
        simp only [List.map_append, List.append_assoc] at hs ⊢
        rw [shSt_max, hs]
        cases scanLine E P (2 * s1.max + 4) s1 (acc ++ ts) with
        | error e => rfl
        | ok r2 => exact ih lines.tail r2.1 r2.2

theorem tokenizeLines_sh (k : Nat) (E : Env) (P : Pats) : ∀ (fuel : Nat) (lines : List (List Nat)) (s : TState) (acc : List Tok5),
    tokenizeLines E P fuel lines (shSt k s) (acc.map (shTok k)) =
      emap (shET k) (List.map (shTok k)) (tokenizeLines E P fuel lines s acc) :=
  tokenizeLines_after k [] E P

/-! ### the line loop split at a line -/

/-- the loop body applied to exactly the given lines (no end of input among them);
    `none`: the loop stopped inside them (a last line holding only blanks) -/
def runLines (E : Env) (P : Pats) : List (List Nat) → TState → List Tok5 → Except (Err × List Tok5) (Option (TState × List Tok5))
  | [], s, acc => .ok (some (s, acc))
  | l :: ls, s, acc =>
    match lineHead E P (s.moveNextLine l) with
    | .error e => .error (e, acc)
    | .ok (s1, ts, cont, brk) =>
      if brk then .ok none
      else if cont then runLines E P ls s1 (acc ++ ts)
      else
        match scanLine E P (2 * s1.max + 4) s1 (acc ++ ts) with
        | .error e => .error e
        | .ok (s2, acc2) => runLines E P ls s2 acc2

/-- One line of `runLines`: it is skipped or scanned (`LineIter`), `runLines` goes on with the other lines, and the line loop
    takes the same turn whatever follows the line. -/
theorem runLines_cons {E : Env} {P : Pats} {l : List Nat} {ls : List (List Nat)} {s : TState} {acc : List Tok5} {r : TState × List Tok5}
    (h : runLines E P (l :: ls) s acc = .ok (some r)) :
    ∃ ts s1, LineIter E P s l ts s1 ∧ runLines E P ls s1 (acc ++ ts) = .ok (some r) ∧
      ∀ fuel rest, tokenizeLines E P (fuel + 1) (l :: rest) s acc = tokenizeLines E P fuel rest s1 (acc ++ ts) := by
  simp only [runLines] at h
  cases hlh : lineHead E P (s.moveNextLine l) with
  | error e => rw [hlh] at h; cases h
  | ok r0 =>
    obtain ⟨s1, ts, cont, brk⟩ := r0
    rw [hlh] at h
    rcases lineHead_cases hlh with ⟨e, hh⟩ | ⟨e, hh⟩ | ⟨e, hh⟩ <;> cases e
    · simp only [Bool.false_eq_true, if_false] at h
      cases hsc : scanLine E P (2 * s1.max + 4) s1 (acc ++ ts) with
      | error e => rw [hsc] at h; cases h
      | ok r2 =>
        obtain ⟨s2, acc2⟩ := r2
        rw [hsc] at h
        obtain ⟨ts2, rfl, hs⟩ := scanLine_cases _ hsc
        exact ⟨ts ++ ts2, s2, .scan hh hs, by rwa [← List.append_assoc], fun fuel rest => by
          simp only [tokenizeLines, List.headD_cons, hlh, Bool.false_eq_true, if_false, hsc, List.tail_cons, List.append_assoc]⟩
    · exact ⟨ts, s1, .skip hh, by simpa using h, fun fuel rest => by
        simp only [tokenizeLines, List.headD_cons, hlh, Bool.false_eq_true, if_false, if_true, List.tail_cons]⟩
    · simp at h

/-- reading `LA ++ LB` = reading `LA`, then reading `LB` from the state reached -/
theorem tokenizeLines_append (E : Env) (P : Pats) (LB : List (List Nat)) (fuel : Nat) :
    ∀ (LA : List (List Nat)) (s : TState) (acc : List Tok5) (s' : TState) (acc' : List Tok5),
      runLines E P LA s acc = .ok (some (s', acc')) →
      tokenizeLines E P (fuel + LA.length) (LA ++ LB) s acc = tokenizeLines E P fuel LB s' acc'
  | [], s, acc, s', acc', h => by cases h; rfl
  | l :: ls, s, acc, s', acc', h => by
    obtain ⟨ts, s1, _, h1, e⟩ := runLines_cons h
    rw [List.length_cons, ← Nat.add_assoc, List.cons_append, e]
    exact tokenizeLines_append E P LB fuel ls s1 _ s' acc' h1

/-- where `runLines` ends: that many lines further, holding the last of them -/
theorem runLines_keeps (E : Env) (P : Pats) :
    ∀ (LA : List (List Nat)) (s : TState) (acc : List Tok5) (s' : TState) (acc' : List Tok5),
      runLines E P LA s acc = .ok (some (s', acc')) →
      s'.lnum = s.lnum + LA.length ∧ s'.line = (LA.getLast?.map List.toArray).getD s.line
  | [], s, acc, s', acc', h => by cases h; exact ⟨rfl, rfl⟩
  | l :: ls, s, acc, s', acc', h => by
    obtain ⟨ts, s1, hi, h1, _⟩ := runLines_cons h
    obtain ⟨a, b⟩ := runLines_keeps E P ls s1 _ s' acc' h1
    obtain ⟨c, d⟩ := hi.frame
    refine ⟨by rw [a, c, List.length_cons]; omega, ?_⟩
    rw [b, d]
    cases ls with
    | nil => rfl
    | cons l2 ls2 => simp only [List.getLast?_cons, Option.map_some, Option.getD_some]

/-- nothing is open: no bracket, no string, no continuation, no indentation -/
def Neutral (s : TState) : Prop :=
  s.parenlev = 0 ∧ s.continued = false ∧ s.indents = [0] ∧ s.endProgs = []

/-- the line read last ends in a line break (or nothing was read) -/
def EndsInNewline (l : List Nat) : Prop := l.getLast? = none ∨ l.getLast? = some 10 ∨ l.getLast? = some 13

theorem nextEndTokens_ll (l l' : List Nat) (c c' : Bool) (s : TState) (h : EndsInNewline l) (h' : EndsInNewline l') :
    nextEndTokens l c s = nextEndTokens l' c' s := by
  have key : ∀ m b, EndsInNewline m → nextEndTokens m b s = nextEndTokens [] false s := by
    intro m b hm
    unfold nextEndTokens
    rcases hm with hm | hm | hm <;> simp [hm]
  rw [key l c h, key l' c' h']

/-- a neutral state differs from the initial state only in the line counter and in the line it still holds -/
theorem tokenizeLines_neutral (E : Env) (P : Pats) (fuel : Nat) (lines : List (List Nat)) (s : TState) (acc : List Tok5)
    (hn : Neutral s) (hl : EndsInNewline s.line.toList) :
    tokenizeLines E P fuel lines s acc = tokenizeLines E P fuel lines (shSt s.lnum TState.init) acc := by
  cases fuel with
  | zero => rfl
  | succ fuel =>
    obtain ⟨h1, h2, h3, h4⟩ := hn
    have hm : s.moveNextLine (lines.headD []) = (shSt s.lnum TState.init).moveNextLine (lines.headD []) := by
      simp only [TState.moveNextLine, shSt, TState.init, h1, h2, h3, h4, List.map_nil, Nat.zero_add]
    simp only [tokenizeLines, hm]
    cases lineHead E P ((shSt s.lnum TState.init).moveNextLine (lines.headD [])) with
    | error e => rfl
    | ok r =>
      obtain ⟨s1, ts, cont, brk⟩ := r
      simp only []
      cases brk with
      | true =>
        simp only [if_true]
        rw [nextEndTokens_ll s.line.toList (shSt s.lnum TState.init).line.toList s.commentLine
          (shSt s.lnum TState.init).commentLine s1 hl (Or.inl rfl)]
      | false => rfl

end XV.Tz
