/-
  C07 (call macros): what `consume_macro_params` captures for one argument of `f!(...)` - the tokens up to the delimiter, their
  strings joined, the span from the first to the last of them - and, when the tokens tile the source line, that this is the
  source text between them.
-/
import XonshVerif.Model.Macro
import XonshVerif.Proofs.ListAux
namespace XV.Macro
open XV

/-- a delimiter: `,` or `)` operator -/
def isDelim (t : Tok) : Bool := isExact t 41 || isExact t 44

/-- When a call-macro argument is captured (any outcome but end of input / unmatched
    bracket), the generator is split as  consumed ++ [delimiter] ++ rest: the argument is made of exactly
    the tokens before the delimiter, the delimiter is a `,` or `)` operator, and `)` is the one pushed back. -/
theorem loop_partition (isSpace : Nat → Bool) : ∀ (gen : List Tok) (stack : List Nat) (acc : List Tok)
    (out : Out) (consumed : List Tok) (pushed : Bool) (rest : List Tok),
    loop isSpace gen stack acc = (out, consumed, pushed, rest) →
    (match out with | .eof => False | .unmatched _ => False | _ => True) →
    ∃ new d, consumed = acc.reverse ++ new ∧ gen = new ++ d :: rest ∧ isDelim d = true ∧ (pushed = isExact d 41) := by
  intro gen
  induction gen with
  | nil =>
    intro stack acc out consumed pushed rest h hout
    simp [loop] at h
    obtain ⟨h1, _⟩ := h
    subst h1
    simp at hout
  | cons t ts ih =>
    intro stack acc out consumed pushed rest h hout
    -- wherever the loop goes on, `t` has gone into the argument
    have go : ∀ stack', loop isSpace ts stack' (t :: acc) = (out, consumed, pushed, rest) →
        ∃ new d, consumed = acc.reverse ++ new ∧ t :: ts = new ++ d :: rest ∧ isDelim d = true ∧ (pushed = isExact d 41) := by
      intro stack' h'
      obtain ⟨new, d, h1, h2, h3, h4⟩ := ih stack' (t :: acc) out consumed pushed rest h' hout
      exact ⟨t :: new, d, by simp [h1], by simp [h2], h3, h4⟩
    unfold loop at h
    simp only [] at h
    split at h
    · split at h
      · split at h
        · exact go _ h
        · cases h; cases hout
      · exact go _ h
    · split at h
      · rename_i hp
        cases h
        exact ⟨[], t, by simp, rfl, by simp [isDelim, hp], by simp [hp]⟩
      · rename_i hp
        split at h
        · rename_i hc
          cases h
          exact ⟨[], t, by simp, rfl, by simp [isDelim, hc], by simp [hp]⟩
        · exact go _ h

/-- the MACRO_PARAM string is the concatenation of the consumed tokens' strings, and its span runs from the
    first consumed token's start to the last one's end -/
theorem param_is_concat (isSpace : Nat → Bool) (consumed : List Tok) (pushed : Option Tok) (last : Tok)
    (str : List Nat) (a b : Pos) (h : loop.finishOut isSpace consumed pushed last = .param str a b) :
    str = (consumed.map (·.str)).flatten ∧
    ∃ first, consumed.head? = some first ∧ a = first.start ∧ b = ((consumed.getLast?).getD first).stop := by
  unfold loop.finishOut at h
  simp only [] at h
  split at h
  · cases h
  · cases h
  · rename_i _ first tl
    split at h
    · split at h <;> cases h
    · split at h
      · cases h
      · injection h with h1 h2 h3
        exact ⟨h1.symm, first, by simp, h2.symm, h3.symm⟩

/-- tokens laid out without gaps on one source line -/
def Contig (line : List Nat) : List Tok → Prop
  | [] => True
  | [t] => t.str = (line.drop t.start.col).take (t.stop.col - t.start.col) ∧ t.start.col ≤ t.stop.col
  | t :: u :: rest =>
      t.str = (line.drop t.start.col).take (t.stop.col - t.start.col) ∧ t.start.col ≤ t.stop.col ∧
      t.stop.col = u.start.col ∧ Contig line (u :: rest)

/-- If the consumed tokens tile the source line without gaps (what C08 establishes for
    the raw token stream, WS tokens included), the concatenation of their strings is exactly the source text
    from the start of the first token to the end of the last one. -/
theorem concat_is_source_slice (line : List Nat) : ∀ (first : Tok) (rest : List Tok),
    Contig line (first :: rest) →
    ((first :: rest).map (·.str)).flatten
      = (line.drop first.start.col).take ((((first :: rest).getLast?).getD first).stop.col - first.start.col)
    ∧ first.start.col ≤ (((first :: rest).getLast?).getD first).stop.col := by
  intro first rest
  induction rest generalizing first with
  | nil =>
    intro h
    simp only [Contig] at h
    simp [h.1, h.2]
  | cons u rest ih =>
    intro h
    simp only [Contig] at h
    obtain ⟨h1, h2, h3, h4⟩ := h
    obtain ⟨ih1, ih2⟩ := ih u h4
    have hlast : ((first :: u :: rest).getLast?).getD first = ((u :: rest).getLast?).getD u := by
      simp only [List.getLast?_cons_cons, List.getLast?_eq_some_getLast (List.cons_ne_nil u rest), Option.getD_some]
    rw [hlast]
    constructor
    · have e1 : ((first :: u :: rest).map (·.str)).flatten = first.str ++ ((u :: rest).map (·.str)).flatten := by simp
      rw [e1, ih1, h1, ← h3]
      exact List.take_drop_append_take_drop line h2 (h3 ▸ ih2)
    · omega

end XV.Macro
