/-
  C08 (structure): INDENT/DEDENT tokens are balanced like brackets and the stream of a finished run ends in exactly
  one ENDMARKER.  The number of open INDENTs is the height of the indentation stack above its bottom element 0: the head
  of a line pushes with an INDENT and pops with DEDENTs, the scan loop emits neither and leaves the stack alone.
-/
import XonshVerif.Proofs.TokSteps
namespace XV.Tz
open XV XV.Rx

variable {E : Env} {P : Pats}

/-- neither INDENT nor DEDENT nor ENDMARKER: all the scan loop emits, and COMMENT / NL of `next_statement` as well -/
def Inline (t : Tok5) : Prop := t.ty ≠ .INDENT ∧ t.ty ≠ .DEDENT ∧ t.ty ≠ .ENDMARKER
def AllInline (ts : List Tok5) : Prop := ∀ t ∈ ts, Inline t

theorem AllInline.append {a b : List Tok5} (ha : AllInline a) (hb : AllInline b) : AllInline (a ++ b) :=
  List.forall_mem_append.mpr ⟨ha, hb⟩
theorem AllInline.single {t : Tok5} (h : Inline t) : AllInline [t] := List.forall_mem_singleton.mpr h

def NoEnd (ts : List Tok5) : Prop := ∀ t ∈ ts, t.ty ≠ .ENDMARKER

theorem NoEnd.append {a b : List Tok5} (ha : NoEnd a) (hb : NoEnd b) : NoEnd (a ++ b) := List.forall_mem_append.mpr ⟨ha, hb⟩
theorem NoEnd.nil : NoEnd [] := List.forall_mem_nil _
theorem AllInline.noEnd {ts : List Tok5} (h : AllInline ts) : NoEnd ts := fun t ht => (h t ht).2.2

theorem AllInline.of_scanTy {ts : List Tok5} (h : ∀ t ∈ ts, scanTy t.ty = true) : AllInline ts :=
  fun t ht => ⟨ty_ne (h t ht) rfl, ty_ne (h t ht) rfl, ty_ne (h t ht) rfl⟩

/-- read INDENT as an opening and DEDENT as a closing bracket: the depth after `ts` when started at depth `d`,
    `none` if a DEDENT arrives at depth 0 -/
def depthAfter : Nat → List Tok5 → Option Nat
  | d, [] => some d
  | d, t :: ts =>
    if t.ty = .INDENT then depthAfter (d + 1) ts
    else if t.ty = .DEDENT then (match d with | 0 => none | d' + 1 => depthAfter d' ts)
    else depthAfter d ts

theorem depthAfter_append (a b : List Tok5) : ∀ d, depthAfter d (a ++ b) = (depthAfter d a).bind (fun d' => depthAfter d' b) := by
  induction a with
  | nil => intro d; rfl
  | cons t ts ih =>
    intro d
    simp only [List.cons_append, depthAfter]
    split
    · exact ih _
    · split
      · cases d with
        | zero => rfl
        | succ d' => exact ih _
      · exact ih _

theorem depthAfter_inline (ts : List Tok5) (h : AllInline ts) : ∀ d, depthAfter d ts = some d := by
  induction ts with
  | nil => intro d; rfl
  | cons t ts ih =>
    intro d
    have ht := h t (List.mem_cons_self)
    simp only [depthAfter, ht.1, ht.2.1, if_false]
    exact ih (fun x hx => h x (List.mem_cons_of_mem _ hx)) d

theorem depthAfter_dedents (k : Nat) (t : Tok5) (ht : t.ty = .DEDENT) : ∀ d, depthAfter (d + k) (List.replicate k t) = some d := by
  induction k with
  | zero => intro d; rfl
  | succ k ih => intro d; simp only [List.replicate_succ, depthAfter, ht]; exact ih d

@[simp] theorem popMode_indents (st : TState) (e : Option Pos) : (st.popMode e).indents = st.indents := by
  unfold TState.popMode; split <;> (try split) <;> rfl
@[simp] theorem addProg_indents (st : TState) (s e : Nat) (m : Mode) (p : PatKind) (q : List Nat) : (st.addProg s e m p q).indents = st.indents := rfl

theorem SpecialStep.indents {st st' : TState} {start e : Nat} (h : SpecialStep st start e st') : st'.indents = st.indents := by
  cases h <;> simp

theorem PseudoMatch.indents {st st' : TState} {tok : Option Tok5} (h : PseudoMatch E P st tok st') :
    st'.indents = st.indents := by
  cases h with
  | idle => rfl
  | hit _ _ _ hs =>
    cases hs with
    | op => exact (specialAction_step _ _ _).indents
    | _ => rfl

theorem EndStep.indents {st st' : TState} {ts : List Tok5} (h : EndStep E P st ts st') :
    st'.indents = st.indents := by
  cases h with
  | fstring _ _ hit => cases hit with | quote _ hem | lbrace _ hem | rbrace _ _ _ _ hem => cases hem <;> simp
  | _ => rfl

/-- by induction on the run and not through `Scan.fold`: it compares the first state with the last -/
theorem Scan.struct {st st' : TState} {ts : List Tok5} (h : Scan E P st ts st') :
    st'.indents = st.indents ∧ AllInline ts := by
  refine ⟨?_, .of_scanTy h.kinds⟩
  induction h with
  | done => rfl
  | step hi _ ih =>
    rw [ih]
    cases hi with
    | turn _ he hp => rw [hp.indents, he.indents]
    | err _ he hp => exact hp.indents.trans he.indents

theorem StmtStep.struct {st s : TState} {col pos : Nat} {ts : List Tok5} {a : StmtAction} (h : StmtStep st col pos ts s a)
    (hne : st.indents ≠ []) :
    s.indents ≠ [] ∧ NoEnd ts ∧ depthAfter (st.indents.length - 1) ts = some (s.indents.length - 1) := by
  have hpos := List.length_pos_iff.mpr hne
  suffices hh : s.indents ≠ [] ∧ depthAfter (st.indents.length - 1) ts = some (s.indents.length - 1) from
    ⟨hh.1, fun t ht => ty_ne (h.kinds t ht) rfl, hh.2⟩
  cases h with
  | indent =>
    exact ⟨by simp, by simp only [depthAfter, if_true, List.length_append, List.length_singleton, Nat.sub_add_cancel hpos, Nat.add_sub_cancel]⟩
  | @dedent k ind' _ _ hd =>
    obtain ⟨b, a⟩ := hd.length
    have a := a hne
    refine ⟨a, ?_⟩
    rw [← b, Nat.sub_add_comm (List.length_pos_iff.mpr a)]
    exact depthAfter_dedents _ _ rfl _
  | _ => exact ⟨hne, by simp [depthAfter]⟩

theorem HeadScan.struct {st s : TState} {ts : List Tok5} (h : HeadScan E P st ts s) (hne : st.indents ≠ []) :
    s.indents ≠ [] ∧ NoEnd ts ∧ depthAfter (st.indents.length - 1) ts = some (s.indents.length - 1) := by
  cases h with
  | progs _ he =>
    have hi : s.indents = st.indents := he.indents
    have ha := AllInline.of_scanTy he.kinds
    exact ⟨hi ▸ hne, ha.noEnd, hi ▸ depthAfter_inline _ ha _⟩
  | stmt _ hs => exact hs.struct hne
  | inside => exact ⟨hne, .nil, rfl⟩

theorem nextEndTokens_struct (ll : List Nat) (lc : Bool) (st : TState) :
    ∃ body e, nextEndTokens ll lc st = body ++ [e] ∧ e.ty = .ENDMARKER ∧ NoEnd body ∧ depthAfter (st.indents.length - 1) body = some 0 := by
  obtain ⟨nl, h, hnl⟩ := nextEndTokens_eq ll lc st
  have hnl : AllInline nl := by rcases hnl with rfl | ⟨rfl, _⟩ <;> simp [AllInline, Inline, newlineTok]
  refine ⟨_, _, h, rfl, hnl.noEnd.append (by simp [NoEnd, dedentTok]), ?_⟩
  rw [depthAfter_append, depthAfter_inline _ hnl]
  simpa using depthAfter_dedents (st.indents.length - 1) _ rfl 0

/-- by induction on the run and not through `Lines.fold`: the statement is about the tokens still to come, not about an
    accumulator, and no text is involved -/
theorem Lines.struct {rest : List (List Nat)} {st : TState} {ts : List Tok5} (h : Lines E P rest st ts)
    (hne : st.indents ≠ []) :
    ∃ body e, ts = body ++ [e] ∧ e.ty = .ENDMARKER ∧ NoEnd body ∧ depthAfter (st.indents.length - 1) body = some 0 := by
  induction h with
  | @stop _ st s hh =>
    obtain ⟨_, _, c⟩ := hh.stmt.struct hne
    rw [show st.indents.length - 1 = _ from Option.some.inj c]
    exact nextEndTokens_struct _ _ _
  | @next _ _ st s ts _ hi _ ih =>
    obtain ⟨a, b, c⟩ : s.indents ≠ [] ∧ NoEnd ts ∧ depthAfter (st.indents.length - 1) ts = some (s.indents.length - 1) := by
      cases hi with
      | skip hh => exact hh.stmt.struct hne
      | scan hh hs =>
        obtain ⟨a, b, c⟩ := hh.struct hne
        obtain ⟨hi, hin⟩ := hs.struct
        refine ⟨hi ▸ a, b.append hin.noEnd, ?_⟩
        rw [depthAfter_append, show depthAfter (st.indents.length - 1) _ = _ from c, hi]
        exact depthAfter_inline _ hin _
    obtain ⟨body, e, rfl, he, hb, hd⟩ := ih a
    exact ⟨_, e, (List.append_assoc _ _ _).symm, he, b.append hb, by rw [depthAfter_append, c]; exact hd⟩

end XV.Tz
