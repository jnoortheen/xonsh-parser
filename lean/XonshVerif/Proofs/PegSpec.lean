/-
  C17 - the recogniser model against a DECLARATIVE semantics of parsing expression grammars (ordered choice, sequence with
  optional items, greedy `*` / `+`, separated lists, look-aheads, cut, forced items, memoisation transparent), for the
  fragment without left recursion, `invalid_` guards and falsy actions: whatever `execRule` answers (without running out of
  fuel or raising) is derivable in the semantics.  Soundness of the interpreter - and of packrat memoisation - by induction
  on fuel; positions come from `consInv` (Proofs/PegConsume), through `Ans.cases`.
-/
import XonshVerif.Proofs.PegConsume
namespace XV.Peg

section
variable (prog : Prog) (w : Array RTok)

/- What has NO outcome in these relations (the interpreter answers exceptionally there, and the theorems are silent): a leaf
   primitive at the end of the token list; a `forced` item whose call fails (the parser raises); `guardInvalid`; an
   `unmodelled` body; a rule id outside the program.  Ignored on purpose: the decorator (memoisation is transparent); the
   action (in the fragment of the theorems it is never falsy, and a raise shows only as an exceptional answer);
   `withoutInvalid` and `usesLoc` of a body; the `opt` flag of a `setCut`. -/
mutual
/-- `SPrim q p r`: primitive `q` at position `p` succeeds ending at `e` (`r = some e`) or fails (`r = none`) -/
inductive SPrim : Prim → Nat → Option Nat → Prop
  | hit (q : Prim) (test : RTok → Bool) (p : Nat) (t : RTok) : leafTest q = some test → w[p]? = some t → test t = true → SPrim q p (some (p + 1))
  | miss (q : Prim) (test : RTok → Bool) (p : Nat) (t : RTok) : leafTest q = some test → w[p]? = some t → test t = false → SPrim q p none
  | rule (id p : Nat) (r : Option Nat) : SRule id p r → SPrim (.rule id) p r
inductive SRule : Nat → Nat → Option Nat → Prop
  | mk (id p : Nat) (r : Option Nat) (rule : Rule) : prog[id]? = some rule → SBody rule.body p r → SRule id p r
inductive SBody : Body → Nat → Option Nat → Prop
  | seqAlts (ps : List Prim) (p : Nat) (r : Option Nat) : SSeq ps p r → SBody (.seqAlts ps) p r
  | alts (as : List Alt) (wo ul : Bool) (p : Nat) (r : Option Nat) : SAlts as p r → SBody (.alts as wo ul) p r
/-- ordered choice of primitives -/
inductive SSeq : List Prim → Nat → Option Nat → Prop
  | nil (p : Nat) : SSeq [] p none
  | hit (q : Prim) (qs : List Prim) (p e : Nat) : SPrim q p (some e) → SSeq (q :: qs) p (some e)
  | miss (q : Prim) (qs : List Prim) (p : Nat) (r : Option Nat) : SPrim q p none → SSeq qs p r → SSeq (q :: qs) p r
/-- ordered choice of alternatives, with cut -/
inductive SAlts : List Alt → Nat → Option Nat → Prop
  | nil (p : Nat) : SAlts [] p none
  | hit (a : Alt) (as : List Alt) (p e : Nat) (c : Bool) : SItems a.items p false (some e) c → SAlts (a :: as) p (some e)
  | cut (a : Alt) (as : List Alt) (p : Nat) : SItems a.items p false none true → SAlts (a :: as) p none
  | miss (a : Alt) (as : List Alt) (p : Nat) (r : Option Nat) : SItems a.items p false none false → SAlts as p r → SAlts (a :: as) p r
/-- a sequence of items from `p` with the cut flag `c` so far: the end (or failure) and the cut flag at that point -/
inductive SItems : List AltItem → Nat → Bool → Option Nat → Bool → Prop
  | nil (p : Nat) (c : Bool) : SItems [] p c (some p) c
  | setCut (o : Bool) (its : List AltItem) (p : Nat) (c : Bool) (r : Option Nat) (c' : Bool) : SItems its p true r c' → SItems (⟨.setCut, o⟩ :: its) p c r c'
  | ok (it : AltItem) (its : List AltItem) (p q : Nat) (c : Bool) (r : Option Nat) (c' : Bool) :
      it.item ≠ .setCut → SItem it.item p (some q) → SItems its q c r c' → SItems (it :: its) p c r c'
  | skip (it : AltItem) (its : List AltItem) (p : Nat) (c : Bool) (r : Option Nat) (c' : Bool) :
      it.item ≠ .setCut → it.opt = true → SItem it.item p none → SItems its p c r c' → SItems (it :: its) p c r c'
  | fail (it : AltItem) (its : List AltItem) (p : Nat) (c : Bool) :
      it.item ≠ .setCut → it.opt = false → SItem it.item p none → SItems (it :: its) p c none c
inductive SItem : Item → Nat → Option Nat → Prop
  | call (q : Prim) (p : Nat) (r : Option Nat) : SPrim q p r → SItem (.call q) p r
  | seqAlts (ps : List Prim) (p : Nat) (r : Option Nat) : SSeq ps p r → SItem (.seqAlts ps) p r
  | plusOk (q : Prim) (p n e : Nat) : SStar q p (n + 1) e → SItem (.repeated q) p (some e)
  | plusFail (q : Prim) (p : Nat) : SStar q p 0 p → SItem (.repeated q) p none
  | gatherOk (el sp : Prim) (p q n e : Nat) : SSeq [el] p (some q) → SSep el sp q n e → SItem (.gathered el sp) p (some e)
  | gatherFail (el sp : Prim) (p : Nat) : SSeq [el] p none → SItem (.gathered el sp) p none
  | posOk (q : Prim) (p e : Nat) : SPrim q p (some e) → SItem (.posLook q) p (some p)
  | posFail (q : Prim) (p : Nat) : SPrim q p none → SItem (.posLook q) p none
  | negOk (q : Prim) (p : Nat) : SPrim q p none → SItem (.negLook q) p (some p)
  | negFail (q : Prim) (p e : Nat) : SPrim q p (some e) → SItem (.negLook q) p none
  | forced (q : Prim) (what : Nat) (p e : Nat) : SPrim q p (some e) → SItem (.forced q what) p (some e)
/-- greedy repetition from `p`: `n` successes, ending at `e` (where the next attempt fails) -/
inductive SStar : Prim → Nat → Nat → Nat → Prop
  | stop (q : Prim) (p : Nat) : SPrim q p none → SStar q p 0 p
  | step (q : Prim) (p e n e' : Nat) : SPrim q p (some e) → SStar q e n e' → SStar q p (n + 1) e'
/-- `(sep elem)*` after a first element -/
inductive SSep : Prim → Prim → Nat → Nat → Nat → Prop
  | stopSep (el sp : Prim) (p : Nat) : SPrim sp p none → SSep el sp p 0 p
  | stopElem (el sp : Prim) (p q : Nat) : SPrim sp p (some q) → SSeq [el] q none → SSep el sp p 0 p
  | step (el sp : Prim) (p q r n e : Nat) : SPrim sp p (some q) → SSeq [el] q (some r) → SSep el sp r n e → SSep el sp p (n + 1) e
end
end


/-- `Snd` for "sound" (not `Prod.snd`): an answer `ok e` claims `P (some e)`, a `fail` claims `P none`, an exceptional one nothing -/
def Snd (P : Option Nat → Prop) (res : Res) : Prop := (∀ e, res = .ok e → P (some e)) ∧ (∀ m, res = .fail m → P none)

theorem Snd.ofOk {P : Option Nat → Prop} {e : Nat} (h : P (some e)) : Snd P (.ok e) := ⟨fun _ he => Res.ok.inj he ▸ h, nofun⟩
theorem Snd.ofFail {P : Option Nat → Prop} {m : Nat} (h : P none) : Snd P (.fail m) := ⟨nofun, fun _ _ => h⟩
theorem Snd.abort {P : Option Nat → Prop} {res : Res} (ha : res.isAbort = true) : Snd P res :=
  ⟨fun e he => (by rw [he] at ha; cases ha), fun m hm => (by rw [hm] at ha; cases ha)⟩
theorem Snd.map {P Q : Option Nat → Prop} {res : Res} (h : Snd P res) (f : ∀ r, P r → Q r) : Snd Q res :=
  ⟨fun e he => f _ (h.1 e he), fun m hm => f _ (h.2 m hm)⟩

def CSound (prog : Prog) (w : Array RTok) (s : St) : Prop := ∀ p id r, cacheGet s.cache p id = some r → Snd (SRule prog w id p) r

def itemPlain : Item → Bool
  | .guardInvalid => false
  | _ => true

def PlainBody : Body → Prop
  | .alts as _ _ => ∀ a ∈ as, actNF a.act = true ∧ ∀ it ∈ a.items, itemPlain it.item = true
  | _ => True

/-- the fragment: no left-recursive rule, no `invalid_` guard, no falsy action -/
def Plain (prog : Prog) : Prop := ∀ (id : Nat) (r : Rule), prog[id]? = some r → r.deco ≠ .leftrec ∧ PlainBody r.body

theorem PlainBody.nf {b : Body} (h : PlainBody b) : BodyNF b := by
  cases b with
  | alts => exact fun a ha => (h a ha).1
  | _ => trivial

theorem Plain.noFalsy {prog : Prog} (h : Plain prog) : NoFalsy prog := fun id r hr => (h id r hr).2.nf

theorem cSound_of_eq {prog : Prog} {w : Array RTok} {s s' : St} (h : s'.cache = s.cache) (hs : CSound prog w s) : CSound prog w s' := by
  unfold CSound at *; rw [h]; exact hs

theorem cSound_put {prog : Prog} {w : Array RTok} {s : St} (hs : CSound prog w s) (p i : Nat) (r : Res) (hr : Snd (SRule prog w i p) r) :
    CSound prog w (s.put p i r) := by
  intro p' i' r' hg
  rcases cacheGet_cachePut_some (c := s.cache) hg with ⟨rfl, rfl, rfl⟩ | h0
  · exact hr
  · exact hs p' i' r' h0

variable {prog : Prog} {w : Array RTok}

/-- the answer of a call is sound and leaves a sound cache -/
abbrev Ans (prog : Prog) (w : Array RTok) (P : Option Nat → Prop) (r : Res × St) : Prop := Snd P r.1 ∧ CSound prog w r.2

structure SpecInv (prog : Prog) (w : Array RTok) (fuel : Nat) : Prop where
  prim : ∀ p s, CacheOK s → CSound prog w s → Ans prog w (SPrim prog w p s.pos) (execPrim prog w fuel p s)
  rule : ∀ id s, CacheOK s → CSound prog w s → Ans prog w (SRule prog w id s.pos) (execRule prog w fuel id s)
  body : ∀ rid b s, PlainBody b → CacheOK s → CSound prog w s → Ans prog w (SBody prog w b s.pos) (execBody prog w fuel rid b s)
  seqAlts : ∀ ps mark s, s.pos = mark → CacheOK s → CSound prog w s → Ans prog w (SSeq prog w ps mark) (execSeqAlts prog w fuel ps mark s)
  alts : ∀ rid idx as mark s, (∀ a ∈ as, actNF a.act = true ∧ ∀ it ∈ a.items, itemPlain it.item = true) → s.pos = mark → CacheOK s → CSound prog w s →
          Ans prog w (SAlts prog w as mark) (execAlts prog w fuel rid idx as mark s)
  items : ∀ its cut oks s, (∀ it ∈ its, itemPlain it.item = true) → CacheOK s → CSound prog w s →
          CSound prog w (execItems prog w fuel its cut oks s).2.2.2.1 ∧
          ((execItems prog w fuel its cut oks s).2.2.1.isAbort = false →
            ((execItems prog w fuel its cut oks s).1 = true → SItems prog w its s.pos cut (some (execItems prog w fuel its cut oks s).2.2.2.1.pos) (execItems prog w fuel its cut oks s).2.1) ∧
            ((execItems prog w fuel its cut oks s).1 = false → SItems prog w its s.pos cut none (execItems prog w fuel its cut oks s).2.1))
  item : ∀ it s, itemPlain it = true → it ≠ .setCut → CacheOK s → CSound prog w s → Ans prog w (SItem prog w it s.pos) (execItem prog w fuel it s)
  rep : ∀ p mark n s, s.pos = mark → CacheOK s → CSound prog w s →
          CSound prog w (execRepeat prog w fuel p mark n s).2.2 ∧
          ((execRepeat prog w fuel p mark n s).2.1.isAbort = false →
            ∃ k, (execRepeat prog w fuel p mark n s).1 = n + k ∧ SStar prog w p mark k (execRepeat prog w fuel p mark n s).2.2.pos)
  sepRep : ∀ e sp mark n s, s.pos = mark → CacheOK s → CSound prog w s →
          CSound prog w (execSepRepeat prog w fuel e sp mark n s).2.2 ∧
          ((execSepRepeat prog w fuel e sp mark n s).2.1.isAbort = false →
            ∃ k, SSep prog w e sp mark k (execSepRepeat prog w fuel e sp mark n s).2.2.pos)

/-- how a call `y` from `s` has ended, when it answers soundly for `P` and consumes what it says (`Claim`): exceptionally;
    with a match that `P` derives, standing at its end; with a failure that `P` derives, standing where it began -/
theorem Ans.cases {P : Option Nat → Prop} {s : St} {y x : Res × St} (hx : y = x) (a : Ans prog w P y) (c : Claim s y) :
    (x.1.isAbort = true ∧ CSound prog w x.2 ∧ CacheOK x.2) ∨
    (∃ s1, x = (.ok s1.pos, s1) ∧ P (some s1.pos) ∧ CSound prog w s1 ∧ CacheOK s1) ∨
    (∃ m s1, x = (.fail m, s1) ∧ s1.pos = s.pos ∧ P none ∧ CSound prog w s1 ∧ CacheOK s1) := by
  subst hx
  obtain ⟨res, s1⟩ := y
  rcases res.cases3 with ha | ⟨e, rfl⟩ | ⟨m, rfl⟩
  · exact .inl ⟨ha, a.2, c.2.2⟩
  · have he : s1.pos = e := c.1 e rfl
    subst he
    exact .inr (.inl ⟨s1, rfl, a.1.1 _ rfl, a.2, c.2.2⟩)
  · exact .inr (.inr ⟨m, s1, rfl, c.2.1 m rfl, a.1.2 m rfl, a.2, c.2.2⟩)

theorem specInv_zero (w : Array RTok) : SpecInv prog w 0 := by
  constructor <;> intros <;>
    simp only [execPrim, execRule, execBody, execSeqAlts, execAlts, execItems, execItem, execRepeat, execSepRepeat] <;>
    first | exact ⟨.abort rfl, ‹_›⟩ | exact ⟨‹_›, fun h => nomatch h⟩

theorem tok_spec {q : Prim} {test : RTok → Bool} (hq : leafTest q = some test) (n : Nat) {s : St} (hs : CSound prog w s) :
    Ans prog w (SPrim prog w q s.pos) (execPrim prog w (n + 1) q s) := by
  rw [execPrim_tok hq]
  cases ht : w[s.pos]? with
  | none => exact ⟨.abort rfl, hs⟩
  | some t =>
    simp only []
    cases htest : test t with
    | true => exact ⟨.ofOk (.hit q test s.pos t hq ht htest), hs⟩
    | false => exact ⟨.ofFail (.miss q test s.pos t hq ht htest), hs⟩

theorem execItems_cons_generic (w : Array RTok) (fuel : Nat) (it : AltItem) (its : List AltItem) (cut : Bool) (oks : List Bool) (s : St)
    (h1 : it.item ≠ .setCut) (h2 : it.item ≠ .guardInvalid) :
    execItems prog w (fuel + 1) (it :: its) cut oks s =
      (if (execItem prog w fuel it.item s).1.isAbort then (false, cut, (execItem prog w fuel it.item s).1, (execItem prog w fuel it.item s).2, oks)
       else if (execItem prog w fuel it.item s).1.isOk || it.opt then execItems prog w fuel its cut ((execItem prog w fuel it.item s).1.isOk :: oks) (execItem prog w fuel it.item s).2
       else (false, cut, (execItem prog w fuel it.item s).1, (execItem prog w fuel it.item s).2, oks)) := by
  rw [execItems_cons rfl, if_neg h1, if_neg h2]

theorem sstar_zero {q : Prim} {p e : Nat} (h : SStar prog w q p 0 e) : e = p := by
  generalize hk : 0 = k at h
  cases h with
  | stop => rfl
  | step => cases hk

theorem cacheHit_spec {s : St} {id : Nat} {c : Res} (hs : CSound prog w s) (hc : cacheGet s.cache s.pos id = some c) :
    Ans prog w (SRule prog w id s.pos) (cacheHit false s c) := by
  have hv := hs s.pos id c hc
  cases c <;> first | exact ⟨hv, hs⟩ | exact ⟨.abort rfl, hs⟩

theorem memoStore_spec {s : St} {id : Nat} {x : Res × St} (a : Ans prog w (SRule prog w id s.pos) x) (hcl : Claim s x) :
    Ans prog w (SRule prog w id s.pos) (memoStore s.pos id x) := by
  unfold memoStore
  obtain ⟨res, s1⟩ := x
  rcases res.cases3 with ha | ⟨e, rfl⟩ | ⟨m, rfl⟩
  · rw [if_pos ha]; exact a
  · exact ⟨a.1, cSound_put a.2 s.pos id _ (hcl.1 e rfl ▸ a.1)⟩
  · exact ⟨a.1, cSound_put a.2 s.pos id _ (.ofFail (a.1.2 m rfl))⟩

theorem actResult_spec {P : Option Nat → Prop} {act : ActKind} (oks : List Bool) {s : St} (hnf : actNF act = true)
    (h : P (some s.pos)) (hs : CSound prog w s) : Ans prog w P (actResult act oks s) := by
  cases act with
  | truthy | mayRaise | gate _ => exact ⟨.ofOk h, hs⟩
  | raises | unknown => exact ⟨.abort rfl, hs⟩
  | none | viaItem _ => cases hnf

theorem specInv_succ (w : Array RTok) (hpl : Plain prog) (fuel : Nat) (ih : SpecInv prog w fuel) : SpecInv prog w (fuel + 1) := by
  have hcons := consInv (prog := prog) w hpl.noFalsy fuel
  refine ⟨?prim, ?rule, ?body, ?seqAlts, ?alts, ?items, ?item, ?rep, ?sepRep⟩
  case prim =>
    intro p s hc hs
    cases p with
    | rule id => rw [execPrim]; exact (ih.rule id s hc hs).imp_left (·.map fun _ => .rule id s.pos _)
    | _ => exact tok_spec rfl fuel hs
  case rule =>
    intro id s hc hs
    rw [execRule_succ]
    cases hr : prog[id]? with
    | none => exact ⟨.abort rfl, hs⟩
    | some r =>
      obtain ⟨hnl, hb⟩ := hpl id r hr
      have body := (ih.body id r.body s hb hc hs).imp_left (·.map fun _ => SRule.mk id s.pos _ r hr)
      simp only []
      cases hd : r.deco with
      | none => exact body
      | logger => exact body
      | leftrec => exact absurd hd hnl
      | memo =>
        simp only []
        cases hcg : cacheGet s.cache s.pos id with
        | some c => exact cacheHit_spec hs hcg
        | none => exact memoStore_spec body (hcons.body id r.body s (hpl.noFalsy id r hr) hc)
  case body =>
    intro rid b s hb hc hs
    cases b with
    | unmodelled => rw [execBody]; exact ⟨.abort rfl, hs⟩
    | seqAlts ps => rw [execBody]; exact (ih.seqAlts ps s.pos s rfl hc hs).imp_left (·.map fun _ => .seqAlts ps s.pos _)
    | alts as wo usesLoc =>
      rw [execBody]
      cases hE : bodyEntry w wo usesLoc s with
      | none => exact ⟨.abort rfl, hs⟩
      | some sB =>
        obtain ⟨e1, e2⟩ := bodyEntry_same w wo usesLoc s sB hE
        obtain ⟨a, b⟩ := ih.alts rid 0 as sB.pos sB hb rfl (cacheOK_of_eq e2 hc) (cSound_of_eq e2 hs)
        exact ⟨a.map fun _ h => .alts as wo usesLoc s.pos _ (e1 ▸ h), cSound_of_eq (bodyExit_same ..).2 b⟩
  case seqAlts =>
    intro ps mark s hpos hc hs
    subst hpos
    cases ps with
    | nil => rw [execSeqAlts]; exact ⟨.ofFail (.nil s.pos), hs⟩
    | cons q qs =>
      generalize hx : execPrim prog w fuel q s = x
      rw [execSeqAlts_cons hx]
      rcases Ans.cases hx (ih.prim q s hc hs) (hcons.prim q s hc) with ⟨ha, b, -⟩ | ⟨s1, rfl, d, b, -⟩ | ⟨m, s1, rfl, -, d, b, c⟩
      · rw [if_pos (by simp [ha])]; exact ⟨.abort ha, b⟩
      · exact ⟨.ofOk (.hit q qs s.pos _ d), b⟩
      · exact (ih.seqAlts qs s.pos (s1.reset s.pos) rfl c b).imp_left
          (·.map fun _ => .miss q qs s.pos _ d)
  case alts =>
    intro rid idx as mark s hacts hpos hc hs
    subst hpos
    cases as with
    | nil => rw [execAlts]; exact ⟨.ofFail (.nil s.pos), hs⟩
    | cons a as =>
      obtain ⟨hact, hitems⟩ := hacts a (List.mem_cons_self ..)
      obtain ⟨i1, i3⟩ := ih.items a.items false [] s hitems hc hs
      have i2 := hcons.items a.items false [] s hc
      generalize hx : execItems prog w fuel a.items false [] s = x at i1 i2 i3
      rw [execAlts_cons hx]
      apply ite_ind (Q := Ans prog w (SAlts prog w (a :: as) s.pos)) <;> intro ha
      · exact ⟨.abort ha, i1⟩
      · obtain ⟨j1, j2⟩ := i3 (Bool.eq_false_iff.mpr ha)
        apply ite_ind (Q := Ans prog w (SAlts prog w (a :: as) s.pos)) <;> intro hok
        · exact actResult_spec _ hact (.hit a as s.pos _ x.2.1 (j1 hok)) i1
        · have hmiss := j2 (Bool.eq_false_iff.mpr hok)
          apply ite_ind (Q := Ans prog w (SAlts prog w (a :: as) s.pos)) <;> intro hcut
          · exact ⟨.ofFail (.cut a as s.pos (hcut ▸ hmiss)), i1⟩
          · exact (ih.alts rid (idx + 1) as s.pos (x.2.2.2.1.reset s.pos) (fun a' ha' => hacts a' (List.mem_cons_of_mem _ ha')) rfl
              i2 i1).imp_left (·.map fun _ => .miss a as s.pos _ (Bool.eq_false_iff.mpr hcut ▸ hmiss))
  case items =>
    intro its cut oks s hpl' hc hs
    cases its with
    | nil =>
      rw [execItems]
      exact ⟨hs, fun _ => ⟨fun _ => .nil s.pos cut, fun h => nomatch h⟩⟩
    | cons it its =>
      have hrest : ∀ it' ∈ its, itemPlain it'.item = true := fun it' h' => hpl' it' (List.mem_cons_of_mem _ h')
      have hit : itemPlain it.item = true := hpl' it (List.mem_cons_self ..)
      by_cases hsc : it.item = .setCut
      · rw [execItems_cons rfl, if_pos hsc]
        obtain ⟨k1, k3⟩ := ih.items its true (true :: oks) s hrest hc hs
        obtain ⟨i, o⟩ := it
        cases hsc
        exact ⟨k1, fun ha => (k3 ha).imp (fun l h => .setCut o its s.pos cut _ _ (l h)) (fun l h => .setCut o its s.pos cut _ _ (l h))⟩
      · have hng : it.item ≠ .guardInvalid := fun hg => by rw [hg] at hit; cases hit
        generalize hx : execItem prog w fuel it.item s = x
        rw [execItems_cons hx, if_neg hsc, if_neg hng]
        rcases Ans.cases hx (ih.item it.item s hit hsc hc hs) (hcons.item it.item s hc) with
          ⟨ha, b, c⟩ | ⟨s1, rfl, d, b, c⟩ | ⟨m, s1, rfl, hp1, d, b, c⟩
        · rw [if_pos ha]; exact ⟨b, fun h => absurd ha (by simp [h])⟩
        · obtain ⟨k1, k3⟩ := ih.items its cut (true :: oks) s1 hrest c b
          exact ⟨k1, fun ha' => (k3 ha').imp (fun l h => .ok it its s.pos _ cut _ _ hsc d (l h))
            (fun l h => .ok it its s.pos _ cut _ _ hsc d (l h))⟩
        · cases hopt : it.opt with
          | true =>
            obtain ⟨k1, k3⟩ := ih.items its cut (false :: oks) s1 hrest c b
            rw [hp1] at k3
            exact ⟨k1, fun ha' => (k3 ha').imp (fun l h => .skip it its s.pos cut _ _ hsc hopt d (l h))
              (fun l h => .skip it its s.pos cut _ _ hsc hopt d (l h))⟩
          | false => exact ⟨b, fun _ => ⟨nofun, fun _ => SItems.fail it its s.pos cut hsc hopt d⟩⟩
  case item =>
    intro it s hit hnc hc hs
    cases it with
    | call q => rw [execItem]; exact (ih.prim q s hc hs).imp_left (·.map fun _ => .call q s.pos _)
    | seqAlts ps => rw [execItem]; exact (ih.seqAlts ps s.pos s rfl hc hs).imp_left (·.map fun _ => .seqAlts ps s.pos _)
    | repeated q =>
      obtain ⟨r1, r3⟩ := ih.rep q s.pos 0 s rfl hc hs
      generalize hx : execRepeat prog w fuel q s.pos 0 s = x at r1 r3
      rw [execItem_repeated hx]
      apply ite_ind (Q := Ans prog w (SItem prog w (.repeated q) s.pos)) <;> intro ha
      · exact ⟨.abort ha, r1⟩
      · obtain ⟨k, hk, hstar⟩ := r3 (Bool.eq_false_iff.mpr ha)
        rw [Nat.zero_add] at hk
        rw [hk]
        cases k with
        | zero => exact ⟨.ofFail (.plusFail q s.pos (sstar_zero hstar ▸ hstar)), r1⟩
        | succ k => exact ⟨.ofOk (.plusOk q s.pos k _ hstar), r1⟩
    | gathered el sp =>
      generalize hx : execSeqAlts prog w fuel [el] s.pos s = x
      rcases Ans.cases hx (ih.seqAlts [el] s.pos s rfl hc hs) (hcons.seqAlts [el] s.pos s rfl hc) with
        ⟨ha, b, -⟩ | ⟨s1, rfl, d, b, c⟩ | ⟨m, s1, rfl, -, d, b, -⟩
      · rw [execItem_gathered hx rfl, if_pos ha]; exact ⟨.abort ha, b⟩
      · obtain ⟨q1, q3⟩ := ih.sepRep el sp s1.pos 0 s1 rfl c b
        generalize hy : execSepRepeat prog w fuel el sp s1.pos 0 s1 = y at q1 q3
        rw [execItem_gathered hx hy, if_neg nofun, if_pos (isOk_ok _)]
        apply ite_ind (Q := Ans prog w (SItem prog w (.gathered el sp) s.pos)) <;> intro ha2
        · exact ⟨.abort ha2, q1⟩
        · obtain ⟨k, hsep⟩ := q3 (Bool.eq_false_iff.mpr ha2)
          exact ⟨.ofOk (.gatherOk el sp s.pos _ k _ d hsep), q1⟩
      · rw [execItem_gathered hx rfl]; exact ⟨.ofFail (.gatherFail el sp s.pos d), b⟩
    | posLook q =>
      generalize hx : execPrim prog w fuel q s = x
      rw [execItem_posLook hx]
      rcases Ans.cases hx (ih.prim q s hc hs) (hcons.prim q s hc) with ⟨ha, b, -⟩ | ⟨s1, rfl, d, b, -⟩ | ⟨m, s1, rfl, -, d, b, -⟩
      · rw [if_pos ha]; exact ⟨.abort ha, b⟩
      · exact ⟨.ofOk (.posOk q s.pos _ d), b⟩
      · exact ⟨.ofFail (.posFail q s.pos d), b⟩
    | negLook q =>
      generalize hx : execPrim prog w fuel q s = x
      rw [execItem_negLook hx]
      rcases Ans.cases hx (ih.prim q s hc hs) (hcons.prim q s hc) with ⟨ha, b, -⟩ | ⟨s1, rfl, d, b, -⟩ | ⟨m, s1, rfl, -, d, b, -⟩
      · rw [if_pos ha]; exact ⟨.abort ha, b⟩
      · exact ⟨.ofFail (.negFail q s.pos _ d), b⟩
      · exact ⟨.ofOk (.negOk q s.pos d), b⟩
    | forced q what =>
      generalize hx : execPrim prog w fuel q s = x
      rw [execItem_forced hx]
      rcases Ans.cases hx (ih.prim q s hc hs) (hcons.prim q s hc) with ⟨ha, b, -⟩ | ⟨s1, rfl, d, b, -⟩ | ⟨m, s1, rfl, -, -, b, -⟩
      · rw [if_pos (by simp [ha])]; exact ⟨.abort ha, b⟩
      · exact ⟨.ofOk (.forced q what s.pos _ d), b⟩
      · exact ⟨.abort rfl, b⟩
    | setCut => exact absurd rfl hnc
    | guardInvalid => cases hit
  case rep =>
    intro q mark n s hpos hc hs
    subst hpos
    generalize hx : execPrim prog w fuel q s = x
    rw [execRepeat_succ hx]
    rcases Ans.cases hx (ih.prim q s hc hs) (hcons.prim q s hc) with ⟨ha, b, c⟩ | ⟨s1, rfl, d, b, c⟩ | ⟨m, s1, rfl, -, d, b, c⟩
    · rw [if_pos ha]; exact ⟨b, fun h => absurd ha (by simp [h])⟩
    · obtain ⟨r1, r3⟩ := ih.rep q s1.pos (n + 1) s1 rfl c b
      refine ⟨r1, fun h => ?_⟩
      obtain ⟨k, hk, hstar⟩ := r3 h
      exact ⟨k + 1, hk.trans (Nat.add_right_comm n 1 k), .step q s.pos s1.pos k _ d hstar⟩
    · exact ⟨b, fun _ => ⟨0, rfl, .stop q s.pos d⟩⟩
  case sepRep =>
    intro el sp mark n s hpos hc hs
    subst hpos
    generalize hx : execPrim prog w fuel sp s = x
    rcases Ans.cases hx (ih.prim sp s hc hs) (hcons.prim sp s hc) with ⟨ha, b, c⟩ | ⟨s1, rfl, d, b, c⟩ | ⟨m, s1, rfl, -, d, b, c⟩
    · rw [execSepRepeat_succ hx rfl, if_pos ha]; exact ⟨b, fun h => absurd ha (by simp [h])⟩
    · generalize hy : execSeqAlts prog w fuel [el] s1.pos s1 = y
      rw [execSepRepeat_succ hx hy, if_neg nofun, if_pos (isOk_ok _)]
      rcases Ans.cases hy (ih.seqAlts [el] s1.pos s1 rfl c b) (hcons.seqAlts [el] s1.pos s1 rfl c) with
        ⟨ha2, b2, c2⟩ | ⟨s2, rfl, d2, b2, c2⟩ | ⟨m2, s2, rfl, -, d2, b2, c2⟩
      · rw [if_pos ha2]; exact ⟨b2, fun h => Bool.noConfusion (h.symm.trans ha2)⟩
      · obtain ⟨r1, r3⟩ := ih.sepRep el sp s2.pos (n + 1) s2 rfl c2 b2
        exact ⟨r1, fun h => (r3 h).elim fun k hsep => ⟨k + 1, .step el sp s.pos _ _ k _ d d2 hsep⟩⟩
      · exact ⟨b2, fun _ => ⟨0, .stopElem el sp s.pos _ d d2⟩⟩
    · rw [execSepRepeat_succ hx rfl]; exact ⟨b, fun _ => ⟨0, .stopSep el sp s.pos d⟩⟩

theorem specInv (w : Array RTok) (hpl : Plain prog) : ∀ fuel, SpecInv prog w fuel
  | 0 => specInv_zero w
  | fuel + 1 => specInv_succ w hpl fuel (specInv w hpl fuel)

theorem cSound_init (w : Array RTok) (n : Nat) (a b : Bool) : CSound prog w (St.init n a b) := fun p id r h => by
  rw [St.init, cacheGet_replicate] at h; cases h

def plainB (prog : Prog) : Bool :=
  prog.all (fun r => r.deco != .leftrec && (match r.body with
    | .alts as _ _ => as.all (fun a => actNF a.act && a.items.all (fun it => itemPlain it.item))
    | _ => true))

theorem plain_of_B (prog : Prog) (h : plainB prog = true) : Plain prog := fun id r hr => by
  have := all_rules h hr
  rw [Bool.and_eq_true, bne_iff_ne] at this
  refine ⟨this.1, ?_⟩
  cases hb : r.body with
  | alts as wo ul =>
    rw [hb] at this
    intro a ha
    have := List.all_eq_true.mp this.2 a ha
    rwa [Bool.and_eq_true, List.all_eq_true] at this
  | _ => trivial

end XV.Peg
