/-
  C07 (subprocess macros): `cmd! rest` passes the stripped source text of `rest` whenever the pieces the rule collected tile
  the line without gaps (what the token source delivers in proc-macro mode: WS tokens are kept); what is NOT a token - a
  line break, a comment, a continuation, a non-ASCII blank - is lost (KF-C07-proc-macro-dropped-blanks).
-/
import XonshVerif.Model.ProcMacro
import XonshVerif.Proofs.Macro
namespace XV.ProcMacro
open XV XV.Macro

/-- If the collected tokens tile the source line without gaps, the subprocess
    macro's argument is exactly the source text from the start of the first to the end of the last token, stripped. -/
theorem proc_macro_arg_is_stripped_source (isSp : Nat → Bool) (line : List Nat) (first : Tok) (rest : List Tok)
    (h : Contig line (first :: rest)) :
    procMacroArg isSp ((first :: rest).map (·.str)) =
      pyStrip isSp ((line.drop first.start.col).take ((((first :: rest).getLast?).getD first).stop.col - first.start.col)) := by
  unfold procMacroArg
  rw [(concat_is_source_slice line first rest h).1]

/-- stripping removes nothing but blanks at the two ends: the result is a contiguous part of the text -/
theorem pyStrip_infix (isSp : Nat → Bool) (l : List Nat) : ∃ a b, l = a ++ pyStrip isSp l ++ b ∧ a.all isSp = true ∧ b.all isSp = true := by
  refine ⟨l.takeWhile isSp, ((l.dropWhile isSp).reverse.takeWhile isSp).reverse, ?_, List.all_takeWhile, ?_⟩
  · -- what follows the leading blanks, reversed, is its own leading blanks and the rest
    rw [pyStrip, List.append_assoc, ← List.reverse_append, List.takeWhile_append_dropWhile, List.reverse_reverse,
      List.takeWhile_append_dropWhile]
  · rw [List.all_reverse]; exact List.all_takeWhile

/-- Non-vacuity: `  a  b ` -> `a  b` -/
example : procMacroArg (fun c => c = 32) [[32, 32], [97], [32, 32], [98], [32]] = [97, 32, 32, 98] := by decide

end XV.ProcMacro
