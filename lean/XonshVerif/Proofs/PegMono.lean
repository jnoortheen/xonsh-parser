/-
  Fuel monotonicity of the recogniser model: a run that does not run out of fuel gives the same
  result and the same final state with any larger fuel.  So `fuel` is a pure proof device: whenever
  a verdict is reached it is THE verdict of the fuel-free Python code the model transcribes.
  The instance of `exec_sim` with equality as the relation and running out of fuel as the only exception.
-/
import XonshVerif.Proofs.PegSim
namespace XV.Peg
variable {prog : Prog} {w : Array RTok}

theorem execRule_fuel_mono (n k id : Nat) (s : St) (h : (execRule prog w n id s).1 ≠ .outOfFuel) :
    execRule prog w (n + k) id s = execRule prog w n id s :=
  ((execRule_eq_unless (E := (· = .outOfFuel)) (fun _ h => h ▸ rfl) (ProgLe.refl _ prog)
    (.inr ⟨Nat.le_add_right n k, rfl⟩) id s).resolve_left h).symm

theorem parse_fuel_mono (n k start : Nat) (v : Bool) (h : (parse prog w n start v).1 ≠ .outOfFuel) :
    parse prog w (n + k) start v = parse prog w n start v := by
  rw [parse_eq rfl rfl] at h
  rw [parse_eq rfl rfl, parse_eq rfl rfl, execRule_fuel_mono n k start _ fun hc => h (by rw [hc]; rfl)]
  by_cases hc : ((execRule prog w n start (St.init w.size false v)).1.isAbort || (execRule prog w n start (St.init w.size false v)).1.isOk) = true
  · rw [if_pos hc, if_pos hc]
  · rw [if_neg hc] at h
    rw [if_neg hc, if_neg hc, execRule_fuel_mono n k start _ fun hc => h (by rw [hc]; rfl)]

end XV.Peg
