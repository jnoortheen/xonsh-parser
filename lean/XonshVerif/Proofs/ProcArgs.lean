/-
  C06, the lemmas: the loop of `proc_args` with a stash emits the stash glued to the longest gap-free continuation (`takeRun`)
  and starts again; `runs` cuts a piece list at the gaps without reference to the loop; the two agree (`procArgsAux_none`).
-/
import XonshVerif.Model.ProcArgs
namespace XV

@[simp] theorem appendPiece_stop (t : Arg) (c : Piece) : (appendPiece t c).stop = c.stop := by
  cases t <;> cases c <;> rfl

@[simp] theorem appendPiece_start (t : Arg) (c : Piece) : (appendPiece t c).start = t.start := by
  cases t <;> cases c <;> rfl

@[simp] theorem toArg_start (p : Piece) : p.toArg.start = p.start := by cases p <;> rfl
@[simp] theorem toArg_stop (p : Piece) : p.toArg.stop = p.stop := by cases p <;> rfl

/-- Gluing a run: the first piece, then every further piece appended. -/
def glue (p : Piece) (ps : List Piece) : Arg := ps.foldl appendPiece p.toArg

theorem foldl_append_start (a : Arg) (ps : List Piece) :
    (ps.foldl appendPiece a).start = a.start := by
  induction ps generalizing a with
  | nil => rfl
  | cons p ps ih => simp [ih]

theorem foldl_append_stop (a : Arg) (p : Piece) (ps : List Piece) :
    ((p :: ps).foldl appendPiece a).stop = ((p :: ps).getLast (by simp)).stop := by
  induction ps generalizing a p with
  | nil => simp
  | cons q qs ih =>
    have := ih (appendPiece a p) q
    simp only [List.foldl_cons] at this ⊢
    rw [this]
    simp [List.getLast_cons]

/-- the strings of a run made of plain tokens only -/
def tokStrs : List Piece → Option (List (List Nat))
  | [] => some []
  | .tok s _ _ :: ps => (tokStrs ps).map (s :: ·)
  | _ :: _ => none

/-- a run of plain tokens glues to one constant holding the concatenation of their strings -/
theorem foldl_tokens (v : List Nat) (a b : Pos) (ps : List Piece) (ss : List (List Nat))
    (h : tokStrs ps = some ss) :
    ∃ e, ps.foldl appendPiece (.const v a b) = .const (v ++ ss.flatten) a e := by
  induction ps generalizing v b ss with
  | nil => simp [tokStrs] at h; subst h; exact ⟨b, by simp⟩
  | cons p ps ih =>
    cases p with
    | tok s s0 e0 =>
      simp only [tokStrs, Option.map_eq_some_iff] at h
      obtain ⟨ss', hss', rfl⟩ := h
      obtain ⟨e, he⟩ := ih (v ++ s) e0 ss' hss'
      exact ⟨e, by simp [appendPiece, he, List.append_assoc]⟩
    | const _ _ _ => simp [tokStrs] at h
    | starred _ _ _ => simp [tokStrs] at h
    | node _ _ _ => simp [tokStrs] at h

/-- The maximal prefix of `ps` that continues without a gap from position `stop`, and the rest. -/
def takeRun (stop : Pos) : List Piece → List Piece × List Piece
  | [] => ([], [])
  | p :: ps =>
      if stop = p.start then ((p :: (takeRun p.stop ps).1), (takeRun p.stop ps).2)
      else ([], p :: ps)

theorem takeRun_length (stop : Pos) (ps : List Piece) : (takeRun stop ps).2.length ≤ ps.length := by
  induction ps generalizing stop with
  | nil => simp [takeRun]
  | cons p ps ih =>
    simp only [takeRun]
    split
    · exact Nat.le_succ_of_le (ih p.stop)
    · simp

theorem takeRun_append (stop : Pos) (ps : List Piece) : (takeRun stop ps).1 ++ (takeRun stop ps).2 = ps := by
  induction ps generalizing stop with
  | nil => rfl
  | cons p ps ih => simp only [takeRun]; split <;> simp [ih]

/-- Induction along the runs of a piece list: from the rest after the first run to the whole list.  (The rest is shorter, by
    `takeRun_length`, but no structural part of the list.) -/
theorem runs_induct {Q : List Piece → Prop} (nil : Q []) (cons : ∀ p ps, Q (takeRun p.stop ps).2 → Q (p :: ps)) : ∀ ps, Q ps
  | [] => nil
  | p :: ps => cons p ps (runs_induct nil cons (takeRun p.stop ps).2)
termination_by ps => ps.length
decreasing_by exact Nat.lt_succ_of_le (takeRun_length _ _)

/-- With a stash, the loop glues the maximal gap-free continuation onto it, emits it, and
    restarts with an empty stash on the rest. -/
theorem procArgsAux_some (a : Arg) (ps : List Piece) :
    procArgsAux (some a) ps
      = ((takeRun a.stop ps).1.foldl appendPiece a) :: procArgsAux none (takeRun a.stop ps).2 := by
  induction ps generalizing a with
  | nil => simp [procArgsAux, takeRun]
  | cons p ps ih =>
    by_cases h : a.stop = p.start
    · have : adjacent a p = true := by simp [adjacent, h]
      simp only [procArgsAux, this, if_true, takeRun, h]
      rw [ih]
      simp
    · have : adjacent a p = false := by simp [adjacent, h]
      simp [procArgsAux, this, takeRun, h]

/-- The runs of a piece list (structural definition, independent of the loop): a new run starts
    wherever a piece does not start exactly where the previous one stopped. -/
def runs : List Piece → List (List Piece)
  | [] => []
  | [p] => [[p]]
  | p :: q :: rest =>
      match runs (q :: rest) with
      | [] => [[p]]
      | r :: rs => if p.stop = q.start then (p :: r) :: rs else [p] :: r :: rs

theorem runs_cons (p : Piece) (ps : List Piece) :
    runs (p :: ps) = (p :: (takeRun p.stop ps).1) :: runs (takeRun p.stop ps).2 := by
  induction ps generalizing p with
  | nil => simp [runs, takeRun]
  | cons q rest ih =>
    simp only [runs]
    rw [ih q]
    by_cases h : p.stop = q.start
    · simp [takeRun, h]
    · simp only [takeRun, h, if_false]
      rw [ih q]

def glueRun : List Piece → Option Arg
  | [] => none
  | p :: ps => some (glue p ps)

/-- Without a stash, the loop emits the glued runs: one run at a time (`procArgsAux_some`, `runs_cons`). -/
theorem procArgsAux_none (ps : List Piece) : procArgsAux none ps = (runs ps).filterMap glueRun := by
  induction ps using runs_induct with
  | nil => rfl
  | cons p ps ih =>
    rw [procArgsAux, procArgsAux_some, runs_cons, toArg_stop, ih]
    rfl

end XV
