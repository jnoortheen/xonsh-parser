/-
  C11 / C08 - token coordinates point into the source: every token starts on a line of the text (or on the line right
  after the last one: DEDENT / ENDMARKER) at a column that is at most that line's length.
  It needs no shape of the mode stack, only that every prog on it started inside the text.
-/
import XonshVerif.Proofs.TokSteps
namespace XV.Tz
open XV XV.Rx

variable {E : Env} {P : Pats} {lines : List (List Nat)}

/-- `p` is a position of the text: a line of it (or the first line after it) and a column inside that line -/
def StartOK (lines : List (List Nat)) (p : Pos) : Prop :=
  1 ≤ p.line ∧ p.line ≤ lines.length + 1 ∧ p.col ≤ (lines[p.line - 1]?.getD []).length

/-- every token of `ts` starts at a position of the text ("token bounds") -/
def TB (lines : List (List Nat)) (ts : List Tok5) : Prop := ∀ t ∈ ts, StartOK lines t.start

theorem TB.nil (lines : List (List Nat)) : TB lines [] := List.forall_mem_nil _
theorem TB.append {a b : List Tok5} (ha : TB lines a) (hb : TB lines b) : TB lines (a ++ b) :=
  List.forall_mem_append.mpr ⟨ha, hb⟩
theorem TB.single {lines : List (List Nat)} {t : Tok5} (h : StartOK lines t.start) : TB lines [t] :=
  List.forall_mem_singleton.mpr h
theorem TB.replicate {t : Tok5} (k : Nat) (h : StartOK lines t.start) : TB lines (List.replicate k t) :=
  fun _ hu => (List.eq_of_mem_replicate hu) ▸ h

theorem StartOK.on_line {st : TState} (hl : LineOK lines st) {n c : Nat} (hn : n = st.lnum) (hc : c ≤ st.max) :
    StartOK lines ⟨n, c⟩ := by
  subst hn
  have hlt := (List.getElem?_eq_some_iff.mp hl.cur).1
  refine ⟨hl.one, by simp only []; omega, ?_⟩
  simp only [hl.cur, Option.getD_some, Array.length_toList, ← hl.max]
  exact hc

def ProgsOK (lines : List (List Nat)) (ps : List EndProg) : Prop := ∀ p ∈ ps, StartOK lines p.start

/-- the invariant: we are on a line of the text and every prog on the mode stack started inside the text - a STRING or
    FSTRING_MIDDLE token starts where its prog did, maybe lines ago -/
structure BI (lines : List (List Nat)) (st : TState) : Prop where
  line : LineOK lines st
  progs : ProgsOK lines st.endProgs

theorem BI.continued {st : TState} (h : BI lines st) : BI lines { st with continued := false } :=
  ⟨h.line.continued, h.progs⟩

theorem ProgsOK.of_nil {ps : List EndProg} (h : ps = []) : ProgsOK lines ps := h ▸ List.forall_mem_nil _

theorem ProgsOK.tail {p : EndProg} {rest : List EndProg} (h : ProgsOK lines (p :: rest)) : ProgsOK lines rest :=
  fun q hq => h q (List.mem_cons_of_mem _ hq)

theorem ProgsOK.cons {p : EndProg} {rest : List EndProg} (hp : StartOK lines p.start) (h : ProgsOK lines rest) :
    ProgsOK lines (p :: rest) :=
  List.forall_mem_cons.mpr ⟨hp, h⟩

theorem popMode_progs {st : TState} (e : Option Pos) (h : ProgsOK lines st.endProgs)
    (he : ∀ pos, e = some pos → StartOK lines pos) : ProgsOK lines (st.popMode e).endProgs := by
  unfold TState.popMode
  split
  · exact h
  · rename_i top rest hst
    rw [hst] at h
    split
    · exact .cons (he _ rfl) h.tail.tail
    · exact h.tail

theorem SpecialStep.bounds {st st' : TState} {start e : Nat} (hl : LineOK lines st) (hpos : st.pos = e)
    (hp : ProgsOK lines st.endProgs) (h : SpecialStep st start e st') : ProgsOK lines st'.endProgs := by
  have he : e ≤ st.max := hpos ▸ hl.pos
  cases h with
  | level => exact hp
  | close => exact popMode_progs _ hp (fun _ hq => Option.some.inj hq ▸ StartOK.on_line hl rfl he)
  | colon hs => exact .cons (StartOK.on_line hl rfl (by have := slice_nonempty_lt _ _ _ (hs ▸ List.cons_ne_nil _ _); omega)) hp

theorem PseudoStep.bounds {st st' : TState} {g : String} {start e : Nat} {tok : Option Tok5}
    (hl : LineOK lines st) (hse : start ≤ e) (hpos : st.pos = e) (hp : ProgsOK lines st.endProgs)
    (h : PseudoStep st g start e tok st') : (∀ t, tok = some t → StartOK lines t.start) ∧ ProgsOK lines st'.endProgs := by
  have he : e ≤ st.max := hpos ▸ hl.pos
  have hs : StartOK lines ⟨st.lnum, start⟩ := StartOK.on_line hl rfl (by omega)
  refine ⟨by rintro t rfl; obtain ⟨ty, rfl⟩ := h.tok; exact hs, ?_⟩
  cases h with
  | fstring => exact .cons (StartOK.on_line hl rfl he) hp
  | string => exact .cons hs hp
  | op => exact (specialAction_step _ _ _).bounds hl hpos hp
  | plain | continuation => exact hp

theorem PseudoMatch.bounds {st st' : TState} {tok : Option Tok5}
    (hb : BI lines st) (h : PseudoMatch E P st tok st') : (∀ t, tok = some t → StartOK lines t.start) ∧ BI lines st' := by
  obtain ⟨hadv, hle'⟩ := h.adv hb.line.inLine
  cases h with
  | idle => exact ⟨fun _ => nofun, hb⟩   -- `nofun` alone splits the token into its cases first
  | @hit _ e _ _ _ _ hm hs =>
    obtain ⟨hge, hbd⟩ := hit_bounds hb.line.inLine hm
    have hl : LineOK lines { st with pos := e } := ⟨hb.line.one, hb.line.cur, hb.line.max, hbd⟩
    obtain ⟨a, b⟩ := hs.bounds hl hge rfl hb.progs
    exact ⟨a, hb.line.of_adv hadv hle', b⟩

theorem EmitMid.bounds {st s : TState} {me : Nat} {p : EndProg} {rest : List EndProg} {mid : List Tok5}
    (hl : LineOK lines st) (hst : st.endProgs = p :: rest) (hp : ProgsOK lines (p :: rest)) (hme : me ≤ st.max)
    (h : EmitMid st me p rest mid s) :
    TB lines mid ∧ ProgsOK lines s.endProgs ∧ s.lnum = st.lnum ∧ s.pos ≤ st.max := by
  cases h with
  | skip => exact ⟨.nil _, hst ▸ hp, rfl, hl.pos⟩
  | emit => exact ⟨.single (hp p List.mem_cons_self), .cons (hp p List.mem_cons_self) hp.tail, rfl, hme⟩

theorem EndStep.bounds {st st' : TState} {ts : List Tok5}
    (hb : BI lines st) (h : EndStep E P st ts st') : TB lines ts ∧ BI lines st' := by
  obtain ⟨hadv, hle'⟩ := h.adv hb.line.inLine
  have hl' := hb.line.of_adv hadv hle'
  have hp := hb.progs
  cases h with
  | idle => exact ⟨.nil _, hb⟩
  | fstring hst _ hit =>
    rw [hst] at hp
    cases hit with
    | quote hm hem =>
      obtain ⟨_, hbd⟩ := hit_bounds hb.line.inLine hm
      obtain ⟨a, b, c, d⟩ := hem.bounds hb.line hst hp (by omega)
      exact ⟨a.append (.single (StartOK.on_line hb.line c d)), hl', popMode_progs none b nofun⟩
    | lbrace hm hem =>
      obtain ⟨_, hbd⟩ := hit_bounds hb.line.inLine hm
      obtain ⟨a, b, c, d⟩ := hem.bounds hb.line hst hp (by omega)
      exact ⟨a.append (.single (StartOK.on_line hb.line c d)), hl', .cons (StartOK.on_line hb.line c hbd) b⟩
    | rbrace _ _ _ hm hem =>
      obtain ⟨_, hbd⟩ := hit_bounds hb.line.inLine hm
      obtain ⟨a, b, c, d⟩ := hem.bounds hb.line hst hp (by omega)
      exact ⟨a.append (.single (StartOK.on_line hb.line c d)), hl',
        popMode_progs _ (popMode_progs none b nofun) (fun _ hq => Option.some.inj hq ▸ StartOK.on_line hb.line c hbd)⟩
  | string hst => rw [hst] at hp; exact ⟨.single (hp _ List.mem_cons_self), hl', hp.tail⟩
  | @join p _ hst => rw [hst] at hp; exact ⟨.nil _, hl', .cons (hp p List.mem_cons_self) hp.tail⟩

theorem ScanIter.bounds {st st' : TState} {acc ts : List Tok5}
    (h0 : TB lines acc ∧ BI lines st) (h : ScanIter E P st ts st') : TB lines (acc ++ ts) ∧ BI lines st' := by
  obtain ⟨hacc, hb⟩ := h0
  obtain ⟨hadv, hle'⟩ := h.adv hb.line.inLine
  cases h with
  | turn _ he hp =>
    obtain ⟨t1, b1⟩ := he.bounds hb
    obtain ⟨t2, b2⟩ := hp.bounds b1
    exact ⟨hacc.append (t1.append fun t ht => t2 t (Option.mem_toList.mp ht)), b2⟩
  | err _ he hp =>
    obtain ⟨t1, b1⟩ := he.bounds hb
    obtain ⟨_, b2⟩ := hp.bounds b1
    exact ⟨hacc.append (t1.append (.single (StartOK.on_line b2.line rfl b2.line.pos))), hb.line.of_adv hadv hle', b2.progs⟩

theorem StmtStep.bounds {st s : TState} {col pos : Nat} {ts : List Tok5} {a : StmtAction}
    (hl : LineOK lines st) (hpos : pos ≤ st.max) (h : StmtStep st col pos ts s a) : TB lines ts := by
  have hp : StartOK lines ⟨st.lnum, pos⟩ := StartOK.on_line hl rfl hpos
  cases h with
  | eof | blankEnd => exact .nil _
  | comment =>
    have := rstripNewlines_len (st.line.toList.drop pos)
    rw [List.length_drop, show st.line.toList.length = st.max by rw [hl.max]; simp] at this
    exact TB.append (.single hp) (.single (StartOK.on_line hl rfl (by omega)))
  | blank => exact .single hp
  | indent => exact .single (StartOK.on_line hl rfl (Nat.zero_le _))
  | dedent => exact .replicate _ hp

theorem HeadScan.bounds {st s : TState} {ts : List Tok5}
    (hb : BI lines st) (h : HeadScan E P st ts s) : TB lines ts ∧ BI lines s := by
  have mkBI : s.endProgs = [] → BI lines s := fun hn => ⟨h.lineOK hb.line, .of_nil hn⟩
  cases h with
  | progs _ he => exact he.bounds hb.continued
  | stmt hnil hs => exact ⟨hs.bounds hb.line (hb.line.stmt_pos _), mkBI (hs.progs.trans hnil)⟩
  | inside hnil => exact ⟨.nil _, mkBI hnil⟩

theorem nextEndTokens_bounds {st s : TState} (hprev : PrevOK lines st) (hlnum : s.lnum = st.lnum + 1) :
    TB lines (nextEndTokens st.line.toList st.commentLine s) := by
  have hle := hprev.le
  have hend : StartOK lines ⟨s.lnum, 0⟩ := ⟨by simp only []; omega, by simp only []; omega, Nat.zero_le _⟩
  obtain ⟨nl, h, hnl⟩ := nextEndTokens_eq st.line.toList st.commentLine s
  rw [h]
  refine (TB.append ?_ (.replicate _ hend)).append (.single hend)
  rcases hnl with rfl | ⟨rfl, hne, _⟩
  · exact .nil _
  · rcases hprev with ⟨_, hnil⟩ | ⟨h1, hcur⟩
    · exact absurd hnil hne
    · exact .single ⟨by simp only [newlineTok]; omega, by simp only [newlineTok]; omega, by simp [newlineTok, hlnum, hcur]⟩

theorem Lines.bounds {st : TState} {ts : List Tok5}
    (hl : Lines E P (lines.drop st.lnum) st ts) (hprogs : ProgsOK lines st.endProgs) (hprev : PrevOK lines st) : TB lines ts := by
  refine hl.fold (I := fun st acc => TB lines acc ∧ ProgsOK lines st.endProgs) ?_ ?_ rfl hprev ⟨.nil _, hprogs⟩
  · intro st s l acc ts ⟨hacc, hprogs⟩ hl hi
    have hb0 : BI lines (st.moveNextLine l) := ⟨.moveNextLine hl, hprogs⟩
    cases hi with
    | skip hh => exact ⟨hacc.append (hh.stmt.bounds hb0.line (hb0.line.stmt_pos _)), .of_nil hh.after⟩
    | scan hh hs =>
      obtain ⟨hts, hgo⟩ := hh.bounds hb0
      rw [← List.append_assoc]
      exact (hs.fold (I := fun s acc => TB lines acc ∧ BI lines s) ScanIter.bounds ⟨hacc.append hts, hgo⟩).imp_right BI.progs
  · intro st s acc ⟨hacc, _⟩ hprev hh
    exact hacc.append (nextEndTokens_bounds hprev hh.stmt.frame.1)

theorem tokenizeLines_b (lines : List (List Nat)) (E : Env) (P : Pats) :
    ∀ (fuel : Nat) (rest : List (List Nat)) (st : TState) (acc out : List Tok5),
      (∀ p ∈ st.endProgs, StartOK lines p.start) → PrevOK lines st → rest = lines.drop st.lnum → TB lines acc →
      tokenizeLines E P fuel rest st acc = .ok out → TB lines out := by
  intro fuel rest st acc out hprogs hprev hrest hacc h
  obtain ⟨ts, rfl, hl⟩ := tokenizeLines_cases fuel h
  exact hacc.append ((hrest ▸ hl).bounds hprogs hprev)

end XV.Tz
