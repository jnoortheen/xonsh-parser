/-
  A sound lower bound on the length of every match of a regular expression (generalises `nonNull`).
-/
import XonshVerif.Proofs.Regex
namespace XV.Rx

/-- every match of `r` consumes at least `minLen r` characters -/
def minLen : Re → Nat
  | .eps => 0
  | .chr _ | .notChr _ | .any | .set _ _ => 1
  | .seq a b => minLen a + minLen b
  | .alt a b => min (minLen a) (minLen b)
  | .star _ _ => 0
  | .look _ _ => 0
  | .eoi => 0

theorem Reach.minLen_le {E : Env} {s : Array Nat} {r : Re} {p q : Nat} (h : Reach E s r p q) :
    p + minLen r ≤ q := by
  induction h with
  | seq _ _ iha ihb => rw [minLen, ← Nat.add_assoc]; exact Nat.le_trans (Nat.add_le_add_right iha _) ihb
  | altL _ ih => exact Nat.le_trans (Nat.add_le_add_left (Nat.min_le_left ..) _) ih
  | altR _ ih => exact Nat.le_trans (Nat.add_le_add_left (Nat.min_le_right ..) _) ih
  | starCons _ hlt _ _ ihb => exact Nat.le_trans (Nat.le_of_lt hlt) ihb
  | _ => exact Nat.le_refl _

theorem matchAt_minLen (E : Env) (fuel : Nat) (r : Re) (s : Array Nat) (pos e : Nat)
    (h : matchAt E fuel r s pos = .matched e) : pos + minLen r ≤ e :=
  (matchAt_reach h).minLen_le

end XV.Rx
