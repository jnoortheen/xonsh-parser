/-
  C17 - the declarative PEG semantics of `PegSpec.lean` is DETERMINISTIC: two derivations for the same rule (item, choice,
  repetition ...) at the same position have the same outcome.  Induction on the first derivation, inversion of the second.
-/
import XonshVerif.Proofs.PegSpecInd
namespace XV.Peg
variable {prog : Prog} {w : Array RTok}

/-- In every case the second derivation ends in the same constructor or in one that shares its first premises; the
    induction hypotheses identify the outcomes of shared premises one after the other (`cases ih _ h'`), which either
    refutes the second constructor (`some _ = none`) or leaves the same outcome. -/
theorem det_holds : SHolds prog w
    (fun q p r1 => ∀ r2, SPrim prog w q p r2 → r1 = r2) (fun id p r1 => ∀ r2, SRule prog w id p r2 → r1 = r2)
    (fun b p r1 => ∀ r2, SBody prog w b p r2 → r1 = r2) (fun ps p r1 => ∀ r2, SSeq prog w ps p r2 → r1 = r2)
    (fun as p r1 => ∀ r2, SAlts prog w as p r2 → r1 = r2)
    (fun its p c r1 c1 => ∀ r2 c2, SItems prog w its p c r2 c2 → r1 = r2 ∧ c1 = c2)
    (fun it p r1 => ∀ r2, SItem prog w it p r2 → r1 = r2)
    (fun q p n1 e1 => ∀ n2 e2, SStar prog w q p n2 e2 → n1 = n2 ∧ e1 = e2)
    (fun el sp p n1 e1 => ∀ n2 e2, SSep prog w el sp p n2 e2 → n1 = n2 ∧ e1 = e2) := by
  apply SHolds.induct
  case prim_hit =>
    intro _ _ _ _ hq hw ht _ h2
    cases h2 with
    | hit => rfl
    | miss _ _ _ _ hq' hw' ht' => cases hq.symm.trans hq'; cases hw.symm.trans hw'; cases ht.symm.trans ht'
    | rule => cases hq
  case prim_miss =>
    intro _ _ _ _ hq hw ht _ h2
    cases h2 with
    | miss => rfl
    | hit _ _ _ _ hq' hw' ht' => cases hq.symm.trans hq'; cases hw.symm.trans hw'; cases ht.symm.trans ht'
    | rule => cases hq
  case prim_rule =>
    intro _ _ _ _ ih _ h2
    cases h2 with
    | rule _ _ _ h' => exact ih _ h'
    | hit _ _ _ _ hq' => cases hq'
    | miss _ _ _ _ hq' => cases hq'
  case rule_mk =>
    intro _ _ _ _ hr _ ih _ h2
    cases h2 with
    | mk _ _ _ _ hr' h' => cases hr.symm.trans hr'; exact ih _ h'
  case body_seqAlts => intro _ _ _ _ ih _ h2; cases h2 with | seqAlts _ _ _ h' => exact ih _ h'
  case body_alts => intro _ _ _ _ _ _ ih _ h2; cases h2 with | alts _ _ _ _ _ h' => exact ih _ h'
  case seq_nil => intro _ _ h2; cases h2; rfl
  case seq_hit =>
    intro _ _ _ _ _ ih _ h2
    cases h2 with
    | hit _ _ _ _ h' => exact ih _ h'
    | miss _ _ _ _ h' => cases ih _ h'
  case seq_miss =>
    intro _ _ _ _ _ _ ih ihs _ h2
    cases h2 with
    | hit _ _ _ _ h' => cases ih _ h'
    | miss _ _ _ _ _ hs' => exact ihs _ hs'
  case alts_nil => intro _ _ h2; cases h2; rfl
  case alts_hit =>
    intro _ _ _ _ _ _ ih _ h2
    cases h2 with
    | hit _ _ _ _ _ h' => exact (ih _ _ h').1
    | cut _ _ _ h' => exact (ih _ _ h').1
    | miss _ _ _ _ h' => cases (ih _ _ h').1
  case alts_cut =>
    intro _ _ _ _ ih _ h2
    cases h2 with
    | hit _ _ _ _ _ h' => exact (ih _ _ h').1
    | cut => rfl
    | miss _ _ _ _ h' => cases (ih _ _ h').2
  case alts_miss =>
    intro _ _ _ _ _ _ ih ihs _ h2
    cases h2 with
    | hit _ _ _ _ _ h' => cases (ih _ _ h').1
    | cut _ _ _ h' => cases (ih _ _ h').2
    | miss _ _ _ _ _ hs' => exact ihs _ hs'
  case items_nil => intro _ _ _ _ h2; cases h2; exact ⟨rfl, rfl⟩
  case items_setCut =>
    intro _ _ _ _ _ _ _ ih _ _ h2
    cases h2 with
    | setCut _ _ _ _ _ _ h' => exact ih _ _ h'
    | ok _ _ _ _ _ _ _ hne' => exact absurd rfl hne'
    | skip _ _ _ _ _ _ hne' => exact absurd rfl hne'
    | fail _ _ _ _ hne' => exact absurd rfl hne'
  case items_ok =>
    intro _ _ _ _ _ _ _ hne _ _ ih ihs _ _ h2
    cases h2 with
    | setCut => exact absurd rfl hne
    | ok _ _ _ _ _ _ _ _ hi' hs' => cases ih _ hi'; exact ihs _ _ hs'
    | skip _ _ _ _ _ _ _ _ hi' => cases ih _ hi'
    | fail _ _ _ _ _ _ hi' => cases ih _ hi'
  case items_skip =>
    intro _ _ _ _ _ _ hne ho _ _ ih ihs _ _ h2
    cases h2 with
    | setCut => exact absurd rfl hne
    | ok _ _ _ _ _ _ _ _ hi' => cases ih _ hi'
    | skip _ _ _ _ _ _ _ _ _ hs' => exact ihs _ _ hs'
    | fail _ _ _ _ _ ho' => cases ho.symm.trans ho'
  case items_fail =>
    intro _ _ _ _ hne ho _ ih _ _ h2
    cases h2 with
    | setCut => exact absurd rfl hne
    | ok _ _ _ _ _ _ _ _ hi' => cases ih _ hi'
    | skip _ _ _ _ _ _ _ ho' => cases ho.symm.trans ho'
    | fail => exact ⟨rfl, rfl⟩
  case item_call => intro _ _ _ _ ih _ h2; cases h2 with | call _ _ _ h' => exact ih _ h'
  case item_seqAlts => intro _ _ _ _ ih _ h2; cases h2 with | seqAlts _ _ _ h' => exact ih _ h'
  case item_plusOk =>
    intro _ _ _ _ _ ih _ h2
    cases h2 with
    | plusOk _ _ _ _ h' => rw [(ih _ _ h').2]
    | plusFail _ _ h' => cases (ih _ _ h').1
  case item_plusFail =>
    intro _ _ _ ih _ h2
    cases h2 with
    | plusOk _ _ _ _ h' => cases (ih _ _ h').1
    | plusFail => rfl
  case item_gatherOk =>
    intro _ _ _ _ _ _ _ _ ih ihs _ h2
    cases h2 with
    | gatherOk _ _ _ _ _ _ h' hs' => cases ih _ h'; rw [(ihs _ _ hs').2]
    | gatherFail _ _ _ h' => cases ih _ h'
  case item_gatherFail =>
    intro _ _ _ _ ih _ h2
    cases h2 with
    | gatherOk _ _ _ _ _ _ h' => cases ih _ h'
    | gatherFail => rfl
  case item_posOk =>
    intro _ _ _ _ ih _ h2
    cases h2 with
    | posOk => rfl
    | posFail _ _ h' => cases ih _ h'
  case item_posFail =>
    intro _ _ _ ih _ h2
    cases h2 with
    | posOk _ _ _ h' => cases ih _ h'
    | posFail => rfl
  case item_negOk =>
    intro _ _ _ ih _ h2
    cases h2 with
    | negOk => rfl
    | negFail _ _ _ h' => cases ih _ h'
  case item_negFail =>
    intro _ _ _ _ ih _ h2
    cases h2 with
    | negOk _ _ h' => cases ih _ h'
    | negFail => rfl
  case item_forced => intro _ _ _ _ _ ih _ h2; cases h2 with | forced _ _ _ _ h' => exact ih _ h'
  case star_stop =>
    intro _ _ _ ih _ _ h2
    cases h2 with
    | stop => exact ⟨rfl, rfl⟩
    | step _ _ _ _ _ h' => cases ih _ h'
  case star_step =>
    intro _ _ _ _ _ _ _ ih ihs _ _ h2
    cases h2 with
    | stop _ _ h' => cases ih _ h'
    | step _ _ _ _ _ h' hs' => cases ih _ h'; obtain ⟨rfl, rfl⟩ := ihs _ _ hs'; exact ⟨rfl, rfl⟩
  case sep_stopSep =>
    intro _ _ _ _ ih _ _ h2
    cases h2 with
    | stopSep => exact ⟨rfl, rfl⟩
    | stopElem _ _ _ _ h' => cases ih _ h'
    | step _ _ _ _ _ _ _ h' => cases ih _ h'
  case sep_stopElem =>
    intro _ _ _ _ _ _ ih ihs _ _ h2
    cases h2 with
    | stopSep _ _ _ h' => cases ih _ h'
    | stopElem => exact ⟨rfl, rfl⟩
    | step _ _ _ _ _ _ _ h' hs' => cases ih _ h'; cases ihs _ hs'
  case sep_step =>
    intro _ _ _ _ _ _ _ _ _ _ ih ihs ihss _ _ h2
    cases h2 with
    | stopSep _ _ _ h' => cases ih _ h'
    | stopElem _ _ _ _ h' hs' => cases ih _ h'; cases ihs _ hs'
    | step _ _ _ _ _ _ _ h' hs' hss' => cases ih _ h'; cases ihs _ hs'; obtain ⟨rfl, rfl⟩ := ihss _ _ hss'; exact ⟨rfl, rfl⟩

theorem SPrim.det {q : Prim} {p : Nat} {r1 r2 : Option Nat} (h1 : SPrim prog w q p r1) (h2 : SPrim prog w q p r2) : r1 = r2 :=
  det_holds.prim h1 _ h2
theorem SRule.det {id : Nat} {p : Nat} {r1 r2 : Option Nat} (h1 : SRule prog w id p r1) (h2 : SRule prog w id p r2) : r1 = r2 :=
  det_holds.rule h1 _ h2
theorem SBody.det {b : Body} {p : Nat} {r1 r2 : Option Nat} (h1 : SBody prog w b p r1) (h2 : SBody prog w b p r2) : r1 = r2 :=
  det_holds.body h1 _ h2
theorem SSeq.det {ps : List Prim} {p : Nat} {r1 r2 : Option Nat} (h1 : SSeq prog w ps p r1) (h2 : SSeq prog w ps p r2) : r1 = r2 :=
  det_holds.seq h1 _ h2
theorem SAlts.det {as : List Alt} {p : Nat} {r1 r2 : Option Nat} (h1 : SAlts prog w as p r1) (h2 : SAlts prog w as p r2) : r1 = r2 :=
  det_holds.alts h1 _ h2
theorem SItems.det {its : List AltItem} {p : Nat} {c : Bool} {r1 r2 : Option Nat} {c1 c2 : Bool}
    (h1 : SItems prog w its p c r1 c1) (h2 : SItems prog w its p c r2 c2) : r1 = r2 ∧ c1 = c2 :=
  det_holds.items h1 _ _ h2
theorem SItem.det {it : Item} {p : Nat} {r1 r2 : Option Nat} (h1 : SItem prog w it p r1) (h2 : SItem prog w it p r2) : r1 = r2 :=
  det_holds.item h1 _ h2
theorem SStar.det {q : Prim} {p n1 n2 e1 e2 : Nat} (h1 : SStar prog w q p n1 e1) (h2 : SStar prog w q p n2 e2) : n1 = n2 ∧ e1 = e2 :=
  det_holds.star h1 _ _ h2
theorem SSep.det {el sp : Prim} {p n1 n2 e1 e2 : Nat} (h1 : SSep prog w el sp p n1 e1) (h2 : SSep prog w el sp p n2 e2) : n1 = n2 ∧ e1 = e2 :=
  det_holds.sep h1 _ _ h2
end XV.Peg
