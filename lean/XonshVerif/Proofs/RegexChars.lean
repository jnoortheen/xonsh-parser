/-
  One more sound syntactic analysis: `onlyChars ok r = true` - every character a match of `r` consumes satisfies `ok`.
  Used for the gap clause of C08 (what a backslash continuation skips).
-/
import XonshVerif.Proofs.RegexSuffix
namespace XV.Rx

def onlyChars (ok : Nat → Bool) : Re → Bool
  | .eps => true
  | .chr c => ok c
  | .notChr _ => false
  | .any => false
  | .set neg items => !neg && items.all (fun it => match it with | .lit c => ok c | _ => false)
  | .seq a b => onlyChars ok a && onlyChars ok b
  | .alt a b => onlyChars ok a && onlyChars ok b
  | .star _ r => onlyChars ok r
  | .look _ _ => true
  | .eoi => true

/-- all characters of `s` in `[a, b)` satisfy `ok` -/
def allIn (ok : Nat → Bool) (s : Array Nat) (a b : Nat) : Prop := ∀ i, a ≤ i → i < b → ∃ c, s[i]? = some c ∧ ok c = true

theorem allIn_refl (ok : Nat → Bool) (s : Array Nat) (a : Nat) : allIn ok s a a :=
  fun _ h1 h2 => absurd h2 (Nat.not_lt.mpr h1)
theorem allIn_trans {ok : Nat → Bool} {s : Array Nat} {a b c : Nat} (h1 : allIn ok s a b) (h2 : allIn ok s b c) : allIn ok s a c := by
  intro i hi1 hi2
  by_cases h : i < b
  · exact h1 i hi1 h
  · exact h2 i (Nat.le_of_not_lt h) hi2
theorem allIn_step {ok : Nat → Bool} {s : Array Nat} {a : Nat} {c : Nat} (h : s[a]? = some c) (hc : ok c = true) : allIn ok s a (a + 1) := by
  intro i h1 h2
  have : i = a := Nat.le_antisymm (Nat.le_of_lt_succ h2) h1
  subst this
  exact ⟨c, h, hc⟩

open Classical in
noncomputable def allInB (ok : Nat → Bool) (s : Array Nat) (a : Nat) : Nat → Bool := fun q => decide (allIn ok s a q)

theorem items_ok (ok : Nat → Bool) (E : Env) (items : List SetItem) (h : items.all (fun it => match it with | .lit c => ok c | _ => false) = true)
    (d : Nat) (hd : items.any (·.has E d) = true) : ok d = true := by
  rw [List.any_eq_true] at hd
  obtain ⟨it, hit, hhas⟩ := hd
  rw [List.all_eq_true] at h
  have := h it hit
  cases it with
  | lit c => simp only [SetItem.has, decide_eq_true_eq] at hhas; subst hhas; exact this
  | range lo hi => simp at this
  | word => simp at this

theorem Reach.onlyChars {ok : Nat → Bool} {E : Env} {s : Array Nat} {r : Re} {p q : Nat} (h : Reach E s r p q)
    (hr : onlyChars ok r = true) : allIn ok s p q := by
  induction h with
  | chr hc => exact allIn_step hc hr
  | @set neg items d _ hd hany =>
    simp only [Rx.onlyChars, Bool.and_eq_true, Bool.not_eq_true'] at hr
    exact allIn_step hd (items_ok ok E items hr.2 d (by simpa [hr.1] using hany))
  | seq _ _ iha ihb =>
    simp only [Rx.onlyChars, Bool.and_eq_true] at hr
    exact allIn_trans (iha hr.1) (ihb hr.2)
  | altL _ ih => exact ih (by simp only [Rx.onlyChars, Bool.and_eq_true] at hr; exact hr.1)
  | altR _ ih => exact ih (by simp only [Rx.onlyChars, Bool.and_eq_true] at hr; exact hr.2)
  | starCons _ _ _ iha ihb => exact allIn_trans (iha hr) (ihb hr)
  | notChr | any => cases hr
  | eps | starNil | look | eoi => exact allIn_refl _ _ _

/-- `Reach.onlyChars` said of the matcher (`m_restrict`); `allInB` is `allIn` as the Boolean that `restrict` takes -/
theorem m_onlyChars (ok : Nat → Bool) (E : Env) (s : Array Nat) : ∀ (fuel : Nat) (r : Re) (pos : Nat) (k : Nat → MR), onlyChars ok r = true →
    m E s fuel r pos k = m E s fuel r pos (restrict (allInB ok s pos) k) :=
  fun fuel _ _ k hr => m_restrict (fun _ hq => by simpa [allInB] using hq.onlyChars hr) fuel k

theorem matchAt_onlyChars (ok : Nat → Bool) (E : Env) (fuel : Nat) (r : Re) (s : Array Nat) (pos e : Nat) (hr : onlyChars ok r = true)
    (h : matchAt E fuel r s pos = .matched e) : allIn ok s pos e :=
  (matchAt_reach h).onlyChars hr

end XV.Rx
