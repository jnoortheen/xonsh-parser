/-
  C01 / C04 (spans): where the end of a node's span comes from.
-/
import XonshVerif.Model.Span
namespace XV.Span
open XV

/-- What the answer `r` of a scan of the tokens below `n` must be: where it stops there is a significant token, and every token
    it passed on the way is structural.  The second part speaks of every `k` not below an answer, so it also says what `none` means. -/
def ScanOK (tys : Array TT) (n : Nat) (r : Option Nat) : Prop :=
  (∀ j, r = some j → j < n ∧ ∃ t, tys[j]? = some t ∧ structural t = false) ∧
  ∀ k, k < n → (∀ j, r = some j → j < k) → ∀ t, tys[k]? = some t → structural t = true

theorem ScanOK.skip {tys : Array TT} {n : Nat} {r : Option Nat} (h : ScanOK tys n r) (hn : ∀ t, tys[n]? = some t → structural t = true) :
    ScanOK tys (n + 1) r := by
  refine ⟨fun j hj => ⟨Nat.lt_succ_of_lt (h.1 j hj).1, (h.1 j hj).2⟩, fun k hk hj t hkt => ?_⟩
  rcases Nat.lt_succ_iff_lt_or_eq.mp hk with hk | rfl
  · exact h.2 k hk hj t hkt
  · exact hn t hkt

theorem ScanOK.stop {tys : Array TT} {n : Nat} {t : TT} (ht : tys[n]? = some t) (hs : structural t = false) : ScanOK tys (n + 1) (some n) :=
  ⟨fun _ hj => Option.some.inj hj ▸ ⟨Nat.lt_succ_self n, t, ht, hs⟩,
   fun _ hk hj => absurd (hj n rfl) (Nat.not_lt_of_le (Nat.le_of_lt_succ hk))⟩

theorem scanBack_spec (tys : Array TT) : ∀ (n : Nat), ScanOK tys n (scanBack tys n)
  | 0 => ⟨fun _ h => (nomatch h), fun k hk => absurd hk (Nat.not_lt_zero k)⟩
  | n + 1 => by
    have ih := scanBack_spec tys n
    cases ht : tys[n]? with
    | none => simpa only [scanBack, ht] using ih.skip (fun _ h => nomatch ht ▸ h)
    | some t =>
      cases hs : structural t with
      | true => simpa only [scanBack, ht, hs, if_true] using ih.skip (fun _ h => Option.some.inj (ht ▸ h) ▸ hs)
      | false => simpa only [scanBack, ht, hs, Bool.false_eq_true, if_false] using ScanOK.stop ht hs

/-- If, between the position `mark` at which a rule was entered and the current
    index, at least one token is significant (not ENDMARKER / NEWLINE / INDENT / DEDENT), then the token whose end
    `Parser.span` takes is the LAST significant token before the index, and it lies inside the rule's own tokens:
    `mark <= j < index`.  (Without such a token the end comes from before the rule's start - the situation in which a
    span can be inverted; a located alternative must consume a significant token.) -/
theorem span_end_is_last_significant_token (tys : Array TT) (mark index : Nat) (i : Nat) (t : TT)
    (hi : mark ≤ i ∧ i < index) (hti : tys[i]? = some t) (hsig : structural t = false) :
    mark ≤ lastNonWs tys index ∧ lastNonWs tys index < index ∧
    (∃ t', tys[lastNonWs tys index]? = some t' ∧ structural t' = false) ∧
    ∀ k, lastNonWs tys index < k → k < index → ∀ t', tys[k]? = some t' → structural t' = true := by
  unfold lastNonWs
  cases h : scanBack tys index with
  | none =>
    obtain ⟨-, skipped⟩ : ScanOK tys index none := h ▸ scanBack_spec tys index
    exact absurd (skipped i hi.2 (fun _ hj => nomatch hj) t hti) (by simp [hsig])
  | some j =>
    obtain ⟨stop, skipped⟩ : ScanOK tys index (some j) := h ▸ scanBack_spec tys index
    refine ⟨?_, (stop j rfl).1, (stop j rfl).2, fun k hjk hk => skipped k hk fun _ hj' => Option.some.inj hj' ▸ hjk⟩
    -- the significant token at `i` was not passed over
    rcases Nat.lt_or_ge j i with hlt | hge
    · exact absurd (skipped i hi.2 (fun _ hj' => Option.some.inj hj' ▸ hlt) t hti) (by simp [hsig])
    · exact Nat.le_trans hi.1 hge

/-- Non-vacuity: `x = 1 NEWLINE DEDENT | index` - the span ends at the NUMBER. -/
example : lastNonWs #[.NAME, .OP, .NUMBER, .NEWLINE, .DEDENT, .NAME] 5 = 2 := by decide

end XV.Span
