/-
  C08 (partial): single-line tokens are source slices.
-/
import XonshVerif.Proofs.TokSteps
namespace XV.Tz
open XV XV.Rx

def IsLineSlice (line : Array Nat) (lnum : Nat) (t : Tok5) : Prop :=
  t.start.line = lnum ∧ t.stop.line = lnum ∧ t.start.col ≤ t.stop.col ∧ t.str = slice line t.start.col t.stop.col

theorem mkTok_isLineSlice (st : TState) (start e : Nat) (ty : TT) (h : start ≤ e) :
    IsLineSlice st.line st.lnum (mkTok st start e ty) := ⟨rfl, rfl, h, rfl⟩

/-- **pseudo_token_is_source_slice (C08, single-line tokens).**  Every token produced by the master-regex branch of
    the scan loop (names, numbers, operators, comments, whitespace, search paths, NEWLINE/NL, FSTRING_START) lies on
    the current line, starts exactly at the scan position, ends where the scan continues, and its text is the source
    slice between its coordinates. -/
theorem pseudo_token_is_source_slice (E : Env) (P : Pats) (st st' : TState) (t : Tok5)
    (h : nextPseudoMatches E P st = .ok (some t, st')) :
    IsLineSlice st.line st.lnum t ∧ t.start.col = st.pos ∧ t.stop.col = st'.pos := by
  cases nextPseudoMatches_cases h with
  | hit _ _ hm hs =>
    obtain ⟨ty, rfl⟩ := hs.tok
    exact ⟨mkTok_isLineSlice _ _ _ _ (matchBranches_ge hm), rfl, hs.adv.2.symm⟩

end XV.Tz
