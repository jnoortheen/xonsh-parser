/-
  C05 - the documented translations, as theorems about the builder model: what Python text each builder's tree stands for,
  and that every node a builder creates carries the span of the construct.
-/
import XonshVerif.Model.Desugar
namespace XV.Desugar
open XV

/-- a string constant as the translations print it: its characters between single quotes, nothing escaped -/
def q (s : List Nat) : String := "'" ++ String.ofList (s.map Char.ofNat) ++ "'"

mutual
/-- the Python text a tree stands for (holes print as `?i`) -/
def render : X → String
  | .name id _ => id
  | .attr v a _ => render v ++ "." ++ a
  | .const s _ => q s
  | .call f args _ => render f ++ "(" ++ renderList args ++ ")"
  | .subscript v sl _ _ => render v ++ "[" ++ render sl ++ "]"
  | .starred v _ => "*" ++ render v
  | .tuple es _ => "(" ++ renderList es ++ ")"
  | .hole i => "?" ++ toString i
def renderList : List X → String
  | [] => ""
  | [x] => render x
  | x :: y :: r => render x ++ ", " ++ renderList (y :: r)
end

mutual
/-- the spans of all nodes CREATED by the builders (holes are not) -/
def spans : X → List Sp
  | .name _ sp => [sp]
  | .attr v _ sp => sp :: spans v
  | .const _ sp => [sp]
  | .call f args sp => sp :: (spans f ++ spansList args)
  | .subscript v sl _ sp => sp :: (spans v ++ spans sl)
  | .starred v sp => sp :: spans v
  | .tuple es sp => sp :: spansList es
  | .hole _ => []
def spansList : List X → List Sp
  | [] => []
  | x :: r => spans x ++ spansList r
end

theorem toString_zero : toString (0 : Nat) = "0" := rfl

/-- The documented translations.  Each proof unfolds the builder and lets `simp` append the string literals that meet;
    where literals stand on both sides of a symbolic text, those after it are appended first (right-nested `++`), then those
    before it (left-nested `++`).  Taking the strings apart into characters instead costs the kernel five times as much. -/
theorem env_name_translation (s : List Nat) (ctx : Ctx) (sp : Sp) : render (expandEnvName s ctx sp) = "__xonsh__.env[" ++ q s ++ "]" := by
  simp only [expandEnvName, loadChain, render, List.foldl, String.reduceAppend]
theorem env_expr_translation (ctx : Ctx) (sp : Sp) : render (expandEnvExpr (.hole 0) ctx sp) = "__xonsh__.env[str(?0)]" := by
  simp only [expandEnvExpr, xonshCall, loadChain, render, renderList, List.foldl, toString_zero, String.reduceAppend]
theorem search_path_translation (s : List Nat) (sp : Sp) : render (expandSearchPath s sp) = "__xonsh__.pathsearch(" ++ q s ++ ")" := by
  simp only [expandSearchPath, xonshCall, loadChain, render, renderList, List.foldl, String.reduceAppend]
theorem pyexpr_translation (sp : Sp) : render (procPyexpr (.hole 0) sp) = "*__xonsh__.list_of_strs_or_callables(?0)" := by
  simp only [procPyexpr, xonshCall, loadChain, render, renderList, List.foldl, toString_zero, String.reduceAppend]
theorem proc_translation (m : String) (args : List X) (sp : Sp) : render (handleProc m args sp) = "__xonsh__." ++ m ++ "(" ++ renderList args ++ ")" := by
  simp only [handleProc, xonshCall, loadChain, render, List.foldl, String.reduceAppend]
theorem inject_translation (args : List X) (sp : Sp) : render (procInject args sp) = "*__xonsh__.subproc_captured_inject(" ++ renderList args ++ ")" := by
  simp only [procInject, xonshCall, loadChain, render, List.foldl, String.reduceAppend]
  simp only [← String.append_assoc, String.reduceAppend]
theorem macro_call_translation (params : List (List Nat × Sp)) (sp : Sp) :
    render (macroCall (.hole 0) params sp) =
      "__xonsh__.call_macro(?0, (" ++ renderList (params.map (fun p => X.const p.1 p.2)) ++ "), globals(), locals())" := by
  simp only [macroCall, xonshCall, loadChain, render, renderList, List.foldl, toString_zero]
  simp only [String.append_assoc, String.reduceAppend]
  simp only [← String.append_assoc, String.reduceAppend]

/-- `a?.b??` -/
example : (expandHelp [⟨.hole 0, ⟨⟨1, 0⟩, ⟨1, 1⟩⟩, some "a", false, ⟨1, 2⟩⟩, ⟨.hole 1, ⟨⟨1, 3⟩, ⟨1, 4⟩⟩, some "b", true, ⟨1, 6⟩⟩]).map render =
    some "__xonsh__.superhelp(__xonsh__.help(?0).b)" := by decide +kernel

/-- C05 `construct_span`: every node these builders create carries the span of the whole construct -/
theorem env_name_spans (s : List Nat) (ctx : Ctx) (sp : Sp) : ∀ x ∈ spans (expandEnvName s ctx sp), x = sp := by
  simp [expandEnvName, loadChain, spans]
theorem env_expr_spans (e : X) (he : spans e = []) (ctx : Ctx) (sp : Sp) : ∀ x ∈ spans (expandEnvExpr e ctx sp), x = sp := by
  simp [expandEnvExpr, xonshCall, loadChain, spans, spansList, he]
theorem search_path_spans (s : List Nat) (sp : Sp) : ∀ x ∈ spans (expandSearchPath s sp), x = sp := by
  simp [expandSearchPath, xonshCall, loadChain, spans, spansList]
theorem pyexpr_spans (e : X) (he : spans e = []) (sp : Sp) : ∀ x ∈ spans (procPyexpr e sp), x = sp := by
  simp [procPyexpr, xonshCall, loadChain, spans, spansList, he]

/-- a help chain of one atom spans from the atom's start to the end of its mark -/
theorem help_single_span (a : HelpAtom) : ∃ f, expandHelp [a] = some (.call f [a.node] ⟨a.sp.a, a.markEnd⟩) :=
  ⟨_, rfl⟩

end XV.Desugar
