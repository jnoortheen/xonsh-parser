/-
  C18 - soundness of the call-graph certificate of Model/PegCost: the packed memo mask is the memo flags (`memoMask_testBit`),
  and if the component numbers pass `cycleCert`, no call edge that can fire twice at one position lies on a cycle of rules
  without a memo cache (`no_multi_edge_on_cycle`).  Beside it the one fact about the interpreter that C18 uses: a memo hit
  evaluates no body (`memo_hit_is_constant`).
-/
import XonshVerif.Model.PegCost
import XonshVerif.Proofs.ListAux
namespace XV.Peg

theorem memoMaskAux_testBit (rs : List Rule) (i acc j : Nat) :
    (memoMaskAux rs i acc).testBit j = (acc.testBit j || (decide (i ≤ j) && (rs[j - i]?.map isMemo).getD false)) := by
  induction rs generalizing i acc with
  | nil => simp [memoMaskAux]
  | cons r rs ih =>
    have hacc : (if isMemo r = true then acc ||| 1 <<< i else acc).testBit j = (acc.testBit j || (decide (i = j) && isMemo r)) := by
      split <;> simp [*, Nat.one_shiftLeft, Nat.testBit_two_pow]
    rw [memoMaskAux, ih, hacc, Bool.or_assoc]
    congr 1
    rcases Nat.lt_trichotomy j i with h | rfl | h
    · simp [Nat.not_le.mpr h, Nat.not_le.mpr (Nat.lt_succ_of_lt h), Nat.ne_of_gt h]
    · simp [Nat.not_succ_le_self]
    · obtain ⟨k, rfl⟩ : ∃ k, j = i + 1 + k := ⟨j - (i + 1), (Nat.add_sub_cancel' h).symm⟩
      simp [show i + 1 + k - i = k + 1 by rw [Nat.add_assoc, Nat.add_sub_cancel_left, Nat.add_comm], Nat.ne_of_lt h, Nat.le_of_lt h]

theorem memoMask_testBit (prog : Prog) (i : Nat) : (memoMask prog).testBit i = (prog[i]?.map isMemo).getD false := by
  simp [memoMask, memoMaskAux_testBit]

/-- `checkRule` in the form the certificate evaluates: the components are compared first - most calls lead to a strictly lower
    one, and then `multi`, quadratic in the call sites, is not asked - and the callees are not deduplicated -/
theorem checkRule_eq (M N a : Nat) (ra : Rule) : checkRule M N a ra =
    (isMemo ra || (callSites ra).all fun c => M.testBit c.2 ||
      (decide (compAt N c.2 < compAt N a) || decide (compAt N c.2 ≤ compAt N a) && !multi (callSites ra) c.2)) := by
  have all_eraseDups (l : List Nat) (p : Nat → Bool) : l.eraseDups.all p = l.all p := by
    rw [Bool.eq_iff_iff]; simp [List.all_eq_true]
  rw [checkRule, all_eraseDups, List.all_map]
  cases isMemo ra
  · refine List.all_congr rfl fun c => ?_
    cases hM : M.testBit c.2 <;> cases hm : multi (callSites ra) c.2 <;> simp [hM, hm] <;> omega
  · rfl

/-- `all` over the call sites without building their list (the appends of `flatMap` cost the kernel a third of the walk) -/
theorem callSites_all (r : Rule) (P : Nat × Nat → Bool) : (callSites r).all P =
    match r.body with
    | .alts as _ _ => as.all fun a => a.items.all fun it => (itemCallees it.item).all fun c => P (altKey a, c)
    | .seqAlts ps => (ps.filterMap primCallee).all fun c => P (0, c)
    | .unmodelled => true := by
  unfold callSites; cases r.body <;> simp [List.all_flatMap, List.all_map, Function.comp_def]

def memoised (prog : Prog) (i : Nat) : Bool := (memoMask prog).testBit i

def NMEdge (prog : Prog) (a b : Nat) : Prop :=
  ∃ ra, prog[a]? = some ra ∧ isMemo ra = false ∧ memoised prog b = false ∧ b ∈ (callSites ra).map (·.2)

def MultiEdge (prog : Prog) (a b : Nat) : Prop :=
  NMEdge prog a b ∧ ∃ ra, prog[a]? = some ra ∧ multi (callSites ra) b = true

inductive NMPath (prog : Prog) : Nat → Nat → Prop
  | single {a b} : NMEdge prog a b → NMPath prog a b
  | cons {a b c} : NMEdge prog a b → NMPath prog b c → NMPath prog a c

theorem cert_edge (prog : Prog) (N : Nat) (h : cycleCert prog N = true) (a b : Nat) (he : NMEdge prog a b) :
    compAt N b ≤ compAt N a ∧
    (∀ ra, prog[a]? = some ra → multi (callSites ra) b = true → compAt N b < compAt N a) := by
  obtain ⟨ra, hra, hma, hmb, hmem⟩ := he
  rw [cycleCert, List.walk_eq (aux := cycleCertAux _ N) (fun _ => rfl) (fun _ _ _ => rfl), List.all_eq_true] at h
  have h1 := h (ra, a) (List.mem_zipIdx_iff_getElem?.mpr (by rw [Array.getElem?_toList]; exact hra))
  simp only [checkRule, hma, Bool.false_eq_true, if_false] at h1
  rw [List.all_eq_true] at h1
  have h2 := h1 b (List.mem_eraseDups.mpr hmem)
  have hmb' : (memoMask prog).testBit b = false := hmb
  simp only [hmb', Bool.false_eq_true, if_false, Bool.and_eq_true, decide_eq_true_eq, Bool.or_eq_true, Bool.not_eq_true'] at h2
  refine ⟨h2.1, ?_⟩
  intro ra' hra' hm
  cases hra.symm.trans hra'
  exact h2.2.resolve_left (by rw [hm]; nofun)

theorem path_comp_le (prog : Prog) (N : Nat) (h : cycleCert prog N = true) {a b : Nat}
    (p : NMPath prog a b) : compAt N b ≤ compAt N a := by
  induction p with
  | single e => exact (cert_edge prog N h _ _ e).1
  | cons e _ ih => exact Nat.le_trans ih (cert_edge prog N h _ _ e).1

/-- C18, structural.  If the certificate holds, no call edge with multiplicity two or more
    lies on a cycle of the call graph of non-memoised rules: a rule that can invoke another one twice at the same position
    is never re-entered, through rules without a memo cache, from inside that callee. -/
theorem no_multi_edge_on_cycle (prog : Prog) (N : Nat) (h : cycleCert prog N = true) (a b : Nat)
    (hm : MultiEdge prog a b) (back : NMPath prog b a ∨ b = a) : False := by
  obtain ⟨he, ra, hra, hmul⟩ := hm
  have hlt := (cert_edge prog N h a b he).2 ra hra hmul
  rcases back with p | rfl
  · have := path_comp_le prog N h p
    omega
  · omega

/-- a memoised rule called at a position that is already in the cache evaluates no body: one `reset`, nothing else -/
theorem memo_hit_is_constant (prog : Prog) (w : Array RTok) (fuel id : Nat) (s : St) (r : Rule) (e : Nat)
    (hr : prog[id]? = some r) (hd : r.deco = .memo) (hc : cacheGet s.cache s.pos id = some (.ok e)) :
    execRule prog w (fuel + 1) id s = (.ok e, s.reset e) := by
  simp [execRule, hr, hd, hc]

end XV.Peg
