/-
  The mode stack (`TState.endProgs`, top first).  First what a prog's pattern says: mode and pattern go together
  (`kindOK`), which pattern of the f-string scanner matched (`fstr_match`) and the two certificates on those patterns
  (`FstrLen`, `FstrEnds`).  Then THE shape of the stack and what each step of the scan does to it.  The bottom is a plain
  string or an f-string literal part; on a literal part sits only a `{`-prog; on a `{`-prog anything but a `{`-prog;
  nothing sits on a plain string or on a format spec.  So whatever a pop uncovers is a `{`-prog (which accumulates
  nothing) or, under a format spec and its field, a literal part that `pop_mode(end)` restarts at the scan position.
  Proved once, without reference to a source text.
-/
import XonshVerif.Proofs.TokSteps
import XonshVerif.Proofs.RegexSuffix
namespace XV.Tz
open XV XV.Rx

variable {E : Env} {P : Pats}

/-- mode and pattern go together -/
def kindOK (p : EndProg) : Bool :=
  match p.mode, p.pat with
  | .none, .endpat _ => true
  | .middle _, .fstr _ => true
  | .inBraces _, .empty => true
  | .inColon _, .rbrace => true
  | _, _ => false

theorem kindOK_pat {p : EndProg} (h : kindOK p = true) :
    (∀ q, p.pat = .endpat q → isN p = true) ∧ (∀ q, p.pat = .fstr q → isM p = true) ∧
    (p.pat = .empty → isB p = true) ∧ (p.pat = .rbrace → isC p = true) := by
  unfold kindOK at h; unfold isN isM isB isC
  cases hm : p.mode <;> cases hp : p.pat <;> simp [hm, hp] at h ⊢

/-- well kinded, and a literal part knows its quote -/
def ProgOK (p : EndProg) : Prop :=
  kindOK p = true ∧ (isM p = true → p.pat = .fstr (strOfCps p.quote) ∧ ∃ tok, p.quote = quoteOf tok)

/-- the delimiter `w` the f-string scanner looks for and the pattern it uses: the closing quote, `{` after a literal part,
    `}` after a format spec -/
def Delim (P : Pats) (w : List Nat) (r : Re) : Prop :=
  (∃ tok, w = quoteOf tok ∧ r = lookupPat P.endpats (strOfCps (quoteOf tok))) ∨ (w = [123] ∧ ∃ q, r = lookupPat P.startLBrace q) ∨
  (w = [125] ∧ r = P.endRBrace)

/-- what the patterns must guarantee: the f-string scanners consume the brace / the closing quote they report -/
structure FstrLen (P : Pats) : Prop where
  lbrace : ∀ q, 1 ≤ minLen (lookupPat P.startLBrace q)
  rbrace : 1 ≤ minLen P.endRBrace
  endq : ∀ tok, (quoteOf tok).length ≤ minLen (lookupPat P.endpats (strOfCps (quoteOf tok)))

/-- what the patterns must guarantee for the delimiters: a match of the scanners ends with the brace / the closing quote -/
structure FstrEnds (P : Pats) : Prop where
  lbrace : ∀ q, endsWith (lookupPat P.startLBrace q) [123] = true
  rbrace : endsWith P.endRBrace [125] = true
  endq : ∀ tok, endsWith (lookupPat P.endpats (strOfCps (quoteOf tok))) (quoteOf tok) = true

theorem FstrLen.delim (hF : FstrLen P) {w : List Nat} {r : Re} (h : Delim P w r) : w.length ≤ minLen r := by
  rcases h with ⟨tok, rfl, rfl⟩ | ⟨rfl, q, rfl⟩ | ⟨rfl, rfl⟩
  · exact hF.endq tok
  · exact hF.lbrace q
  · exact hF.rbrace

theorem FstrEnds.delim (hE : FstrEnds P) {w : List Nat} {r : Re} (h : Delim P w r) : endsWith r w = true := by
  rcases h with ⟨tok, rfl, rfl⟩ | ⟨rfl, q, rfl⟩ | ⟨rfl, rfl⟩
  · exact hE.endq tok
  · exact hE.lbrace q
  · exact hE.rbrace

/-- A named match of the f-string scanner on a well-formed prog tells the kind of the prog and the pattern that matched:
    `End` and `LBrace` belong to a literal part, any other named group is the `RBrace` of a format spec. -/
theorem fstr_match {p : EndProg} {fuel : Nat} {line : Array Nat} {pos e : Nat} {g : String} (hok : ProgOK p)
    (hm : matchBranches E fuel (patBranches P p.pat) line pos = .inl (some (g, e))) (hg : g ≠ "") :
    ∃ r, Reach E line r pos e ∧ (g = "End" → isM p = true ∧ Delim P p.quote r) ∧
      (g = "LBrace" → isM p = true ∧ Delim P [123] r) ∧ (g ≠ "End" → g ≠ "LBrace" → isC p = true ∧ r = P.endRBrace) := by
  obtain ⟨r, hmem, hr⟩ := matchBranches_reach hm
  obtain ⟨_, hM, _, hC⟩ := kindOK_pat hok.1
  refine ⟨r, hr, ?_⟩
  cases hpat : p.pat <;> rw [hpat] at hmem <;>
    simp only [patBranches, List.mem_cons, Prod.mk.injEq, List.not_mem_nil, or_false] at hmem
  · exact absurd hmem.1 hg
  · obtain ⟨hp, tok, htok⟩ := hok.2 (hM _ hpat)
    have hq := PatKind.fstr.inj (hpat.symm.trans hp)
    rcases hmem with ⟨rfl, rfl⟩ | ⟨rfl, rfl⟩
    · exact ⟨fun h => absurd h (by simp), fun _ => ⟨hM _ hpat, .inr (.inl ⟨rfl, _, rfl⟩)⟩, fun _ h => absurd rfl h⟩
    · exact ⟨fun _ => ⟨hM _ hpat, .inl ⟨tok, htok, by rw [hq, htok]⟩⟩, fun h => absurd h (by simp), fun h => absurd rfl h⟩
  · obtain ⟨rfl, rfl⟩ := hmem
    exact ⟨fun h => absurd h (by simp), fun h => absurd h (by simp), fun _ _ => ⟨hC hpat, rfl⟩⟩
  · exact absurd hmem.1 hg

/-- what `up` may sit on -/
def Sits (up : EndProg) : List EndProg → Prop
  | [] => isM up = true ∨ isN up = true
  | lo :: _ => (isM lo = true ∧ isB up = true) ∨ (isB lo = true ∧ isB up = false)

/-- every prog is well formed and sits on what it may sit on -/
def Shape : List EndProg → Prop
  | [] => True
  | p :: rest => ProgOK p ∧ Sits p rest ∧ Shape rest

theorem Shape.tail {p : EndProg} {rest : List EndProg} (h : Shape (p :: rest)) : Shape rest := h.2.2
theorem Shape.ok {p : EndProg} {rest : List EndProg} (h : Shape (p :: rest)) : ProgOK p := h.1
theorem Shape.sits {p : EndProg} {rest : List EndProg} (h : Shape (p :: rest)) : Sits p rest := h.2.1

theorem Shape.push {up : EndProg} {stack : List EndProg} (hk : ProgOK up) (ha : Sits up stack) (hv : Shape stack) :
    Shape (up :: stack) := ⟨hk, ha, hv⟩

theorem Shape.retop {p p' : EndProg} {rest : List EndProg} (hm : p'.mode = p.mode) (hp : p'.pat = p.pat) (hq : p'.quote = p.quote)
    (h : Shape (p :: rest)) : Shape (p' :: rest) := by
  obtain ⟨hN, hM, hB, _⟩ := kind_congr hm
  refine ⟨⟨by have := h.ok.1; unfold kindOK at this ⊢; rw [hm, hp]; exact this, fun h' => ?_⟩, ?_, h.tail⟩
  · rw [hp, hq]; exact h.ok.2 (hM ▸ h')
  · have := h.sits
    cases rest with
    | nil => unfold Sits at this ⊢; rw [hM, hN]; exact this
    | cons lo more => unfold Sits at this ⊢; rw [hB]; exact this

theorem Shape.below_notB {up lo : EndProg} {rest : List EndProg} (h : Shape (up :: lo :: rest)) (hu : isB up = false) : isB lo = true := by
  rcases h.sits with ⟨_, hb⟩ | ⟨hb, _⟩
  · rw [hu] at hb; cases hb
  · exact hb

theorem Shape.below_B {up : EndProg} {rest : List EndProg} (h : Shape (up :: rest)) (hu : isB up = true) :
    ∃ lo more, rest = lo :: more ∧ isM lo = true := by
  cases rest with
  | nil =>
    rcases h.sits with hM | hN
    · rw [isM_notB hM] at hu; cases hu
    · rw [isN_notB hN] at hu; cases hu
  | cons lo more =>
    rcases h.sits with ⟨hm, _⟩ | ⟨_, hb⟩
    · exact ⟨lo, more, rfl, hm⟩
    · rw [hu] at hb; cases hb

theorem Shape.below_C {c : EndProg} {rest : List EndProg} (h : Shape (c :: rest)) (hc : isC c = true) :
    ∃ b m more, rest = b :: m :: more ∧ isB b = true ∧ isM m = true := by
  cases rest with
  | nil =>
    rcases h.sits with hM | hN
    · rw [isC_notM hc] at hM; cases hM
    · rw [isC_notN hc] at hN; cases hN
  | cons b rest2 =>
    have hB := h.below_notB (isC_notB hc)
    obtain ⟨m, more, hr, hM⟩ := h.tail.below_B hB
    exact ⟨b, m, more, by rw [hr], hB, hM⟩

theorem Shape.pop_restart {b m : EndProg} {more : List EndProg} (pos : Pos) (h : Shape (b :: m :: more)) :
    Shape ({ m with start := pos, text := [], contline := [] } :: more) :=
  Shape.retop (p := m) rfl rfl rfl h.tail

theorem Sits.text_on_B {up : EndProg} {st : TState} (hup : isM up = true ∨ isN up = true) (hB : TopB st) : Sits up st.endProgs := by
  cases hs : st.endProgs with
  | nil => exact hup
  | cons lo more => exact .inr ⟨hB lo more hs, hup.elim isM_notB isN_notB⟩

/-- The f-string scanner has closed a format spec and its field: the literal part below is on top, restarted at the scan
    position with no text yet, and the `}` was consumed.  How much it consumed is left as `minLen` of its pattern, so that
    everything up to `scan_stuck` needs no certificate; `FstrLen` makes it one character or more (`Restarted.lt`). -/
def Restarted (P : Pats) (st st' : TState) : Prop :=
  (∃ m more, st'.endProgs = m :: more ∧ isM m = true ∧ m.start = cur st' ∧ m.text = []) ∧ st.pos + minLen P.endRBrace ≤ st'.pos

theorem Restarted.inMiddle {st st' : TState} (h : Restarted P st st') : st'.inMiddle = true := by
  obtain ⟨⟨m, more, hm, hM, _⟩, _⟩ := h
  rw [inMiddle_eq st' m more hm]; exact hM

/-- a `}` consumes at least itself -/
theorem Restarted.lt {st st' : TState} (hF : FstrLen P) (h : Restarted P st st') : st.pos < st'.pos :=
  Nat.lt_of_lt_of_le (Nat.lt_add_of_pos_right hF.rbrace) h.2

theorem top_restarted {st st' : TState} (h : TopB st' ∨ Restarted P st st') : Fresh st' (cur st') := by
  rcases h with hB | ⟨⟨m, more', hm, _, hs, ht⟩, _⟩
  · exact hB.fresh _
  · intro q more hq _; rw [hm] at hq; cases hq; exact ⟨hs, ht⟩

/-- the `}` of a format spec `p` takes the spec and its field off a well-shaped stack and restarts the literal part below -/
theorem rbrace_stack {p p' : EndProg} {rest : List EndProg} {s1 : TState} (hsh : Shape (p :: rest)) (hC : isC p = true)
    (hp' : s1.endProgs = p' :: rest) (pos : Pos) :
    ∃ b m more, rest = b :: m :: more ∧ isM m = true ∧
      ((s1.popMode none).popMode (some pos)).endProgs = { m with start := pos, text := [], contline := [] } :: more := by
  obtain ⟨b, m, more, rfl, _, hM⟩ := hsh.below_C hC
  exact ⟨b, m, more, rfl, hM, by rw [popMode_none_eq s1 p' _ hp', popMode_some_eq _ pos b m more rfl]⟩

/-- The f-string scanner keeps the shape.  It found the end of a literal part (closing quote, `{`) or of a format spec
    (`}`), never of a `{`-prog; the closing quote and `{` leave a `{`-prog or nothing on top, `}` a restarted literal part. -/
theorem FstrHit.shape {st s : TState} {p : EndProg} {rest : List EndProg} {ts : List Tok5}
    (hst : st.endProgs = p :: rest) (hv : Shape st.endProgs) (h : FstrHit E P st p rest ts s) :
    Shape s.endProgs ∧ isB p = false ∧ (TopB s ∨ Restarted P st s) := by
  have hsh : Shape (p :: rest) := hst ▸ hv
  cases h with
  | @quote e mid s1 hm hem =>
    obtain ⟨p', hp', _⟩ := hem.top hst
    obtain ⟨_, _, hE, _⟩ := fstr_match hsh.ok hm (by decide)
    have hM := (hE rfl).1
    have hend : (s1.popMode none).endProgs = rest := by rw [popMode_none_eq s1 p' rest hp']
    exact ⟨hend ▸ hsh.tail, isM_notB hM, .inl fun q more (hq : (s1.popMode none).endProgs = q :: more) =>
      ((hend.symm.trans hq) ▸ hsh : Shape (p :: q :: more)).below_notB (isM_notB hM)⟩
  | @lbrace e mid s1 hm hem =>
    obtain ⟨p', hp', hm', hpat', hq', _⟩ := hem.top hst
    obtain ⟨_, _, _, hL, _⟩ := fstr_match hsh.ok hm (by decide)
    have hM := (hL rfl).1
    refine ⟨?_, isM_notB hM, .inl fun q more hq => by cases hq; rfl⟩
    show Shape (_ :: s1.endProgs)
    rw [hp']
    exact .push ⟨rfl, nofun⟩ (.inl ⟨(kind_congr hm').2.1 ▸ hM, rfl⟩) (.retop hm' hpat' hq' hsh)
  | @rbrace g e mid s1 hg hE hL hm hem =>
    obtain ⟨p', hp', _⟩ := hem.top hst
    obtain ⟨r, hr, _, _, hR⟩ := fstr_match hsh.ok hm hg
    obtain ⟨hC, rfl⟩ := hR hE hL
    obtain ⟨b, m, more, rfl, hM, e2⟩ := rbrace_stack (s1 := { s1 with parenlev := s1.parenlev - 1 }) hsh hC hp' ⟨s1.lnum, e⟩
    refine ⟨?_, isC_notB hC, .inr ⟨⟨_, more, e2, hM, ?_, rfl⟩, hr.minLen_le⟩⟩
    · show Shape (TState.popMode _ _).endProgs
      rw [e2]; exact hsh.tail.pop_restart _
    · simp only [cur, popMode_lnum]

/-- Every hit of the f-string scanner has the same form: a pattern `r` for a delimiter `w` matched up to `e`; what is
    left of the literal text before the delimiter comes first, then the delimiter's token, and the scan goes on at `e`. -/
theorem FstrHit.delim {st s : TState} {p : EndProg} {rest : List EndProg} {ts : List Tok5} (hok : ProgOK p)
    (h : FstrHit E P st p rest ts s) :
    ∃ w r e mid s1 ty, Delim P w r ∧ Reach E st.line r st.pos e ∧
      EmitMid st (e - w.length) p rest mid s1 ∧ ts = mid ++ [⟨ty, w, ⟨s1.lnum, s1.pos⟩, ⟨s1.lnum, e⟩, st.line.toList⟩] ∧
      s.lnum = s1.lnum ∧ s.pos = e := by
  cases h with
  | quote hm hem =>
    obtain ⟨r, hr, hE, _⟩ := fstr_match hok hm (by decide)
    exact ⟨_, r, _, _, _, _, (hE rfl).2, hr, hem, rfl, popMode_lnum _ _, rfl⟩
  | lbrace hm hem =>
    obtain ⟨r, hr, _, hL, _⟩ := fstr_match hok hm (by decide)
    exact ⟨_, r, _, _, _, _, (hL rfl).2, hr, hem, rfl, rfl, rfl⟩
  | rbrace hg hE hL hm hem =>
    obtain ⟨r, hr, _, _, hR⟩ := fstr_match hok hm hg
    exact ⟨_, r, _, _, _, _, .inr (.inr ⟨rfl, (hR hE hL).2⟩), hr, hem, rfl, by simp only [popMode_lnum], rfl⟩

/-- what `handle_end_progs` leaves behind: the shape, and a `{`-prog or nothing on top (the master pattern may act), or the
    rest of the line swallowed, or a literal part restarted -/
theorem EndStep.shape {st st' : TState} {ts : List Tok5} (hv : Shape st.endProgs) (h : EndStep E P st ts st') :
    Shape st'.endProgs ∧ (TopB st' ∨ st'.pos = st'.max ∨ Restarted P st st') := by
  cases h with
  | idle hB => exact ⟨hv, .inl hB⟩
  | fstring hst _ hit => obtain ⟨a, _, b⟩ := hit.shape hst hv; exact ⟨a, b.imp_right .inr⟩
  | @string p rest _ _ hst hN =>
    have hsh : Shape (p :: rest) := hst ▸ hv
    exact ⟨hsh.tail, .inl fun q more hq => (hq ▸ hsh : Shape (p :: q :: more)).below_notB (isN_notB hN)⟩
  | @join p rest hst => exact ⟨.retop (p := p) rfl rfl rfl (hst ▸ hv), .inr (.inl rfl)⟩

/-- where the master pattern is asked: after `handle_end_progs` -/
def PseudoPre (st : TState) : Prop := TopB st ∨ st.pos = st.max ∨ st.inMiddle = true

theorem PseudoPre.topB {st : TState} (h : PseudoPre st) (hnmax : st.pos ≠ st.max) (hnM : st.inMiddle = false) : TopB st :=
  h.elim id fun x => x.elim (absurd · hnmax) fun x => by rw [hnM] at x; cases x

theorem EndStep.pre {st st' : TState} {ts : List Tok5} (hv : Shape st.endProgs) (h : EndStep E P st ts st') :
    PseudoPre st' :=
  (h.shape hv).2.imp_right (.imp_right Restarted.inMiddle)

theorem SpecialStep.shape {st st' : TState} {start e : Nat} (hv : Shape st.endProgs) (h : SpecialStep st start e st') :
    Shape st'.endProgs := by
  cases h with
  | level => exact hv
  | @close b rest _ hs hb =>
    obtain ⟨m, more, rfl, _⟩ := (hs ▸ hv : Shape (b :: rest)).below_B hb
    show Shape (st.popMode _).endProgs
    rw [popMode_some_eq st _ b m more hs]
    exact (hs ▸ hv : Shape (b :: m :: more)).pop_restart _
  | colon _ hs hb =>
    show Shape (_ :: st.endProgs)
    rw [hs]
    exact .push ⟨rfl, nofun⟩ (.inr ⟨hb, rfl⟩) (hs ▸ hv)

/-- after an operator read with a `{`-prog or nothing on top, a prog on top that accumulates text - the literal part
    uncovered by `}`, the format spec opened by `:` - has just been restarted at the end of the operator -/
theorem SpecialStep.restart {st st' : TState} {start e : Nat} (hv : Shape st.endProgs) (hB : TopB st) (hsz : e ≤ st.line.size)
    (h : SpecialStep st start e st') : Fresh st' ⟨st.lnum, e⟩ := by
  cases h with
  | level => exact TopB.fresh (st := { st with parenlev := _ }) hB _
  | @close b rest _ hs hb =>
    obtain ⟨m, more, rfl, _⟩ := (hs ▸ hv : Shape (b :: rest)).below_B hb
    intro q more' (hq : (st.popMode _).endProgs = q :: more') _
    rw [popMode_some_eq st _ b m more hs] at hq; cases hq
    exact ⟨rfl, rfl⟩
  | colon hs =>
    have hlen := slice_len st.line start e hsz
    rw [hs, List.length_singleton] at hlen
    intro q more hq _
    cases hq
    have h0 := slice_len st.line (start + 1) e hsz
    exact ⟨by show (⟨st.lnum, start + 1⟩ : Pos) = _; rw [show start + 1 = e by omega], List.length_eq_zero_iff.mp (by rw [h0]; omega)⟩

theorem PseudoStep.shape {st st' : TState} {g : String} {start e : Nat} {tok : Option Tok5} (hv : Shape st.endProgs) (hB : TopB st)
    (h : PseudoStep st g start e tok st') : Shape st'.endProgs := by
  cases h with
  | fstring => exact .push ⟨rfl, fun _ => ⟨rfl, _, rfl⟩⟩ (.text_on_B (.inl rfl) hB) hv
  | string => exact .push ⟨rfl, nofun⟩ (.text_on_B (.inr rfl) hB) hv
  | op => exact (specialAction_step st start e).shape hv
  | plain | continuation => exact hv

theorem PseudoMatch.shape {st st' : TState} {tok : Option Tok5} (hv : Shape st.endProgs) (hpre : PseudoPre st)
    (h : PseudoMatch E P st tok st') : Shape st'.endProgs := by
  cases h with
  | idle => exact hv
  | @hit _ e _ _ hnmax hnM _ hs => exact hs.shape (st := { st with pos := e }) hv (hpre.topB hnmax hnM)

/-- when no token comes back and the position is where it was, the stack is as before -/
theorem PseudoMatch.same {st st' : TState} (hP : PseudoProgress P) (h : PseudoMatch E P st none st')
    (hpos : st'.pos = st.pos) : st'.endProgs = st.endProgs := by
  cases h with
  | idle => rfl
  | hit _ _ hm hs =>
    have hgt := fun hg => Nat.ne_of_gt (matchBranches_gt hP hg hm) (hs.adv.2.symm.trans hpos)
    cases hs with
    | string hg => exact absurd (hg ▸ by decide) hgt
    | continuation => rfl

/-- A turn of the scan loop that yields no token and does not move (the ERRORTOKEN case): the string scanner left a
    `{`-prog or nothing on top and the master pattern changed nothing - or a `}` restarted a literal part without
    consuming anything. -/
theorem scan_stuck {st st1 st2 : TState} {ts1 : List Tok5} (hP : PseudoProgress P)
    (hi : InLine st) (hv : Shape st.endProgs)
    (he : EndStep E P st ts1 st1) (hp : PseudoMatch E P st1 none st2) (heq : st.pos = st2.pos) (hlt : st.pos < st.max) :
    TopB st2 ∨ Restarted P st st2 := by
  obtain ⟨a1, b1⟩ := he.adv hi
  obtain ⟨a2, _⟩ := hp.adv b1
  have := a1.ge; have := a2.ge; have := a1.max
  have hs := hp.same hP (by omega)
  rcases (he.shape hv).2 with x | x | ⟨⟨m, more, hm, hM, hc, ht⟩, hl⟩
  · exact .inl fun q more hq => x q more (hs ▸ hq)
  · omega
  · exact .inr ⟨⟨m, more, hs ▸ hm, hM, by rw [hc]; simp only [cur, a2.lnum]; congr 1; omega, ht⟩, by omega⟩

/-- a `}` consumes at least itself (`FstrLen`), so the second case does not arise -/
theorem scan_stuck_topB {st st1 st2 : TState} {ts1 : List Tok5} (hP : PseudoProgress P) (hF : FstrLen P)
    (hi : InLine st) (hv : Shape st.endProgs)
    (he : EndStep E P st ts1 st1) (hp : PseudoMatch E P st1 none st2) (heq : st.pos = st2.pos) (hlt : st.pos < st.max) : TopB st2 :=
  (scan_stuck hP hi hv he hp heq hlt).resolve_right fun r => by have := r.lt hF; omega

theorem ScanIter.shape {st st' : TState} {ts : List Tok5} (hv : Shape st.endProgs)
    (h : ScanIter E P st ts st') : Shape st'.endProgs := by
  cases h with
  | turn _ he hp | err _ he hp => have v := hp.shape (he.shape hv).1 (he.pre hv); exact v

theorem HeadScan.shape {st s : TState} {ts : List Tok5} (hv : Shape st.endProgs)
    (h : HeadScan E P st ts s) : Shape s.endProgs := by
  cases h with
  | progs _ he => exact (he.shape (st := { st with continued := false }) hv).1
  | stmt hnil hs => exact (hs.progs.trans hnil) ▸ trivial
  | inside => exact hv

end XV.Tz
