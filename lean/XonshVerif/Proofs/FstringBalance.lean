/-
  C10 / C08: FSTRING_START and FSTRING_END tokens are balanced like brackets.
  Invariant over the scan: the number of f-strings opened and not yet closed in the tokens emitted so far is the number of
  f-string (middle-mode) records on the mode stack; uses the shape of the stack, Proofs/TokStack.
-/
import XonshVerif.Proofs.TokStack
namespace XV.Tz
open XV XV.Rx

variable {E : Env} {P : Pats}

/-- FSTRING_START opens, FSTRING_END closes: depth after `ts` when started at `d` (`none`: an END without an open START) -/
def fdepthAfter : Nat → List Tok5 → Option Nat
  | d, [] => some d
  | d, t :: ts =>
    if t.ty = .FSTRING_START then fdepthAfter (d + 1) ts
    else if t.ty = .FSTRING_END then (match d with | 0 => none | d' + 1 => fdepthAfter d' ts)
    else fdepthAfter d ts

def FNeutral (ts : List Tok5) : Prop := ∀ t ∈ ts, t.ty ≠ .FSTRING_START ∧ t.ty ≠ .FSTRING_END

theorem FNeutral.append {a b : List Tok5} (ha : FNeutral a) (hb : FNeutral b) : FNeutral (a ++ b) :=
  List.forall_mem_append.mpr ⟨ha, hb⟩
theorem FNeutral.nil : FNeutral [] := List.forall_mem_nil _
theorem FNeutral.single {t : Tok5} (h : t.ty ≠ .FSTRING_START ∧ t.ty ≠ .FSTRING_END) : FNeutral [t] :=
  List.forall_mem_singleton.mpr h

theorem FNeutral.of_ty {ts : List Tok5} {S : TT → Bool} (h : ∀ t ∈ ts, S t.ty = true)
    (hS : S .FSTRING_START = false ∧ S .FSTRING_END = false) : FNeutral ts :=
  fun t ht => ⟨ty_ne (h t ht) hS.1, ty_ne (h t ht) hS.2⟩

theorem fdepthAfter_append (a b : List Tok5) : ∀ d, fdepthAfter d (a ++ b) = (fdepthAfter d a).bind (fun d' => fdepthAfter d' b) := by
  induction a with
  | nil => intro d; rfl
  | cons t ts ih =>
    intro d
    simp only [List.cons_append, fdepthAfter]
    split
    · exact ih _
    · split
      · cases d with
        | zero => rfl
        | succ d' => exact ih _
      · exact ih _

theorem fdepthAfter_neutral (ts : List Tok5) (h : FNeutral ts) : ∀ d, fdepthAfter d ts = some d := by
  induction ts with
  | nil => intro d; rfl
  | cons t ts ih =>
    intro d
    have ht := h t (List.mem_cons_self)
    simp only [fdepthAfter, ht.1, ht.2, if_false]
    exact ih (fun x hx => h x (List.mem_cons_of_mem _ hx)) d

/-- the f-strings that are open: middle-mode records on the stack -/
def fcount (ps : List EndProg) : Nat := ps.countP isM

theorem fcount_cons (p : EndProg) (rest : List EndProg) : fcount (p :: rest) = fcount rest + (if isM p then 1 else 0) := by
  unfold fcount; rw [List.countP_cons]

theorem fcount_notM {p : EndProg} (rest : List EndProg) (h : isM p = false) : fcount (p :: rest) = fcount rest := by
  rw [fcount_cons, h]; rfl

theorem fcount_retop {p p' : EndProg} (rest : List EndProg) (hm : p'.mode = p.mode) : fcount (p' :: rest) = fcount (p :: rest) := by
  rw [fcount_cons, fcount_cons, (kind_congr hm).2.1]

/-- what one call does to the depth: the tokens it emits take the depth from the open f-strings before to those after -/
def FStep (st st' : TState) (ts : List Tok5) : Prop := fdepthAfter (fcount st.endProgs) ts = some (fcount st'.endProgs)

theorem FStep.of_neutral {st st' : TState} {ts : List Tok5} (hn : FNeutral ts) (hc : fcount st'.endProgs = fcount st.endProgs) :
    FStep st st' ts := by
  unfold FStep; rw [fdepthAfter_neutral ts hn, hc]

theorem notM_of_kind (p : EndProg) (hk : kindOK p = true) (hp : p.pat = .rbrace ∨ p.pat = .empty ∨ ∃ q, p.pat = .endpat q) :
    isM p = false := by
  obtain ⟨hN, _, hB, hC⟩ := kindOK_pat hk
  rcases hp with h | h | ⟨q, h⟩
  · exact isC_notM (hC h)
  · exact isB_notM (hB h)
  · exact isN_notM p (hN q h)

theorem EmitMid.fneutral {st s : TState} {me : Nat} {p : EndProg} {rest : List EndProg} {mid : List Tok5}
    (h : EmitMid st me p rest mid s) : FNeutral mid := by
  cases h <;> simp [FNeutral]

/-- the f-string scanner: FSTRING_END goes with the popped literal part, the braces change nothing -/
theorem FstrHit.fstep {st s : TState} {p : EndProg} {rest : List EndProg} {ts : List Tok5}
    (hv : Shape st.endProgs) (hst : st.endProgs = p :: rest) (h : FstrHit E P st p rest ts s) : FStep st s ts := by
  have hsh : Shape (p :: rest) := hst ▸ hv
  have brace : ∀ {mid : List Tok5} {c : Nat} {a b : Pos} {l : List Nat}, FNeutral mid → FNeutral (mid ++ [⟨.OP, [c], a, b, l⟩]) :=
    fun hm => hm.append (.single ⟨nofun, nofun⟩)
  cases h with
  | quote hm hem =>
    obtain ⟨p', hp', _⟩ := hem.top hst
    obtain ⟨_, _, hE, _⟩ := fstr_match hsh.ok hm (by decide)
    have hM := (hE rfl).1
    unfold FStep
    rw [fdepthAfter_append, fdepthAfter_neutral _ hem.fneutral, hst, fcount_cons, hM]
    simp only [Option.bind_some, if_true, fdepthAfter, show (TT.FSTRING_END = TT.FSTRING_START) = False by simp, if_false]
    rw [popMode_none_eq _ p' rest hp']
  | lbrace _ hem =>
    obtain ⟨p', hp', hm', _⟩ := hem.top hst
    refine .of_neutral (brace hem.fneutral) ?_
    show fcount (_ :: _) = _
    rw [hp', hst, fcount_notM _ rfl, fcount_retop rest hm']
  | @rbrace g e mid s1 hg hE hL hm hem =>
    -- the format spec and its field go, neither is an f-string; the literal part below stays one
    obtain ⟨p', hp', _⟩ := hem.top hst
    obtain ⟨_, _, _, _, hR⟩ := fstr_match hsh.ok hm hg
    have hC := (hR hE hL).1
    obtain ⟨b, m, more, rfl, _, e2⟩ := rbrace_stack (s1 := { s1 with parenlev := s1.parenlev - 1 }) hsh hC hp' ⟨s1.lnum, e⟩
    refine .of_neutral (brace hem.fneutral) ?_
    show fcount (TState.popMode _ _).endProgs = _
    rw [e2, hst, fcount_notM _ (isC_notM hC), fcount_notM _ (isB_notM (hsh.below_notB (isC_notB hC)))]
    exact fcount_retop more rfl

theorem EndStep.fstep {st st' : TState} {ts : List Tok5}
    (hv : Shape st.endProgs) (h : EndStep E P st ts st') : FStep st st' ts := by
  cases h with
  | idle => exact .of_neutral .nil rfl
  | fstring hst _ hit => exact hit.fstep hv hst
  | @string p rest _ _ hst hN => exact .of_neutral (.single ⟨nofun, nofun⟩) (by rw [hst, fcount_notM _ (isN_notM p hN)])
  | @join p rest hst => exact .of_neutral .nil (by rw [hst]; exact fcount_retop rest rfl)

theorem SpecialStep.fcount_eq {st st' : TState} {start e : Nat} (hv : Shape st.endProgs) (h : SpecialStep st start e st') :
    fcount st'.endProgs = fcount st.endProgs := by
  cases h with
  | level => rfl
  | @close b rest _ hs hb =>
    obtain ⟨m, more, rfl, _⟩ := (hs ▸ hv : Shape (b :: rest)).below_B hb
    show fcount (st.popMode _).endProgs = _
    rw [popMode_some_eq st _ b m more hs, hs, fcount_notM _ (isB_notM hb)]
    exact fcount_retop more rfl
  | colon => exact fcount_notM _ rfl

theorem PseudoMatch.fstep {st st' : TState} {tok : Option Tok5} (hv : Shape st.endProgs)
    (h : PseudoMatch E P st tok st') : FStep st st' tok.toList := by
  cases h with
  | idle => exact .of_neutral .nil rfl
  | @hit _ e _ _ _ _ _ hs =>
    cases hs with
    | fstring => unfold FStep; simp [Option.toList, fdepthAfter, mkTok, TState.addProg, fcount_cons, isM]
    | string => exact .of_neutral .nil (fcount_notM _ rfl)
    | plain ty hty => exact .of_neutral (.single ⟨ty_ne hty rfl, ty_ne hty rfl⟩) rfl
    | op => exact .of_neutral (.single ⟨nofun, nofun⟩) ((specialAction_step _ _ _).fcount_eq (st := { st with pos := e }) hv)
    | continuation => exact .of_neutral .nil rfl

/-- invariant of the accumulated tokens: the f-strings left open are the middle-mode records on the stack -/
def FAcc (st : TState) (acc : List Tok5) : Prop := fdepthAfter 0 acc = some (fcount st.endProgs)

theorem FAcc.step {st st' : TState} {acc ts : List Tok5} (h : FAcc st acc) (hs : FStep st st' ts) : FAcc st' (acc ++ ts) := by
  unfold FAcc at *; unfold FStep at hs
  rw [fdepthAfter_append, h]; exact hs

theorem ScanIter.fbal {st st' : TState} {acc ts : List Tok5}
    (h0 : Shape st.endProgs ∧ FAcc st acc) (h : ScanIter E P st ts st') : Shape st'.endProgs ∧ FAcc st' (acc ++ ts) := by
  obtain ⟨hv, hacc⟩ := h0
  refine ⟨h.shape hv, ?_⟩
  have turn : ∀ {ts1 st1 tok st2}, EndStep E P st ts1 st1 → PseudoMatch E P st1 tok st2 → FAcc st2 (acc ++ ts1 ++ tok.toList) :=
    fun he hp => (hacc.step (he.fstep hv)).step (hp.fstep (he.shape hv).1)
  cases h with
  | turn _ he hp => rw [← List.append_assoc]; exact turn he hp
  | err _ he hp =>
    rw [← List.append_assoc]
    have := turn he hp
    rw [Option.toList, List.append_nil] at this
    exact this.step (.of_neutral (.single ⟨nofun, nofun⟩) rfl)

theorem StmtStep.fstep {st s : TState} {col pos : Nat} {ts : List Tok5} {a : StmtAction} (h : StmtStep st col pos ts s a) :
    FStep st s ts :=
  .of_neutral (.of_ty h.kinds ⟨rfl, rfl⟩) (by rw [h.progs])

theorem HeadScan.fbal {st s : TState} {ts acc : List Tok5} (hv : Shape st.endProgs) (hacc : FAcc st acc)
    (h : HeadScan E P st ts s) : Shape s.endProgs ∧ FAcc s (acc ++ ts) := by
  refine ⟨h.shape hv, hacc.step ?_⟩
  cases h with
  | progs _ he => exact he.fstep (st := { st with continued := false }) hv
  | stmt _ hs => exact hs.fstep
  | inside => exact .of_neutral .nil rfl

/-- by induction on the run and not through `Lines.fold`, which is about a text; none is involved here -/
theorem Lines.fbal {rest : List (List Nat)} {st : TState} {ts : List Tok5} (h : Lines E P rest st ts) :
    ∀ {acc : List Tok5}, Shape st.endProgs → FAcc st acc → fdepthAfter 0 (acc ++ ts) = some 0 := by
  induction h with
  | @stop rest st s hh =>
    intro acc hv hacc
    -- at the end of the input the stack is empty
    have hs := hacc.step hh.stmt.fstep
    unfold FAcc at hs
    rw [List.append_nil, hh.after] at hs
    rw [fdepthAfter_append, hs]
    exact fdepthAfter_neutral _ (.of_ty (nextEndTokens_kinds _ _ _) ⟨rfl, rfl⟩) _
  | @next l _ st _ _ _ hi _ ih =>
    intro acc hv hacc
    rw [← List.append_assoc]
    cases hi with
    | skip hh => exact ih (hh.after ▸ trivial) (hacc.step hh.stmt.fstep)
    | scan hh hs =>
      obtain ⟨v, a⟩ := hs.fold (I := fun s acc => Shape s.endProgs ∧ FAcc s acc) ScanIter.fbal (hh.fbal (st := st.moveNextLine l) hv hacc)
      rw [← List.append_assoc]; exact ih v a

end XV.Tz
