/-
  C11 - the generic "invalid syntax" error points at a token that exists: the recogniser never counts more fetched tokens
  than there are (`Closed`: kept by every state operation), so `farthest ≤ |w|`.
-/
import XonshVerif.Proofs.PegSim
namespace XV.Peg

def FetchOK (w : Array RTok) (s : St) : Prop := s.fetched ≤ w.size

@[simp] theorem reset_fetched (s : St) (p : Nat) : (s.reset p).fetched = s.fetched := rfl

theorem fetchOK_closed (prog : Prog) (w : Array RTok) : Closed (FetchOK w) prog w where
  op g h := by
    induction g with
    | peek hlt | adv _ hlt => exact Nat.max_le.mpr ⟨h, hlt⟩
    | _ => exact h

/-- Whatever the program and the token list: when `Parser.parse` ends with the generic "invalid syntax" error, the
    token it points at - the last one fetched in the first pass, `farthest - 1` - is an index of the token list
    (`farthest ≤ |w|`). -/
theorem generic_error_points_at_a_token (prog : Prog) (w : Array RTok) (fuel start : Nat) (verbose : Bool) (farthest : Nat)
    (h : (parse prog w fuel start verbose).1 = .invalidSyntax farthest) : farthest ≤ w.size := by
  rw [parse_eq rfl rfl] at h
  -- the generic error comes from the diagnostic pass and names what the first pass had fetched
  split at h
  · cases Outcome.of_eq_invalidSyntax (far := none) h
  · cases Outcome.of_eq_invalidSyntax (far := some _) h
    exact (fetchOK_closed prog w).execRule fuel start (St.init w.size false verbose) (Nat.zero_le _)

end XV.Peg
