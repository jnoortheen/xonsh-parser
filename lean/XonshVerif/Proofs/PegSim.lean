/-
  Two runs of the interpreter side by side.  `exec_sim`: from related states - the second run possibly with more fuel, or
  with a program in which some raising actions succeed (`ProgLe`) - the ten functions give equal results and related states,
  unless the first run was cut short by an exception in `E`; what is asked of the relation is that every state operation
  of Proofs/PegStep keeps it (`StOp`: the operations, each with what the interpreter knows when it applies it; `SimRel`).
  Fuel monotonicity (PegMono), version-gate monotonicity (PegGate) and the verbose simulation (PegVerbose) are instances;
  so are, through `Closed`, the invariants that only look at the state (PegFetch, PegFired), at the relation "equal, and
  the invariant holds".
-/
import XonshVerif.Proofs.PegStep
namespace XV.Peg
variable {prog : Prog} {w : Array RTok}

/-- the k-th alternative of rule `rid`, if the rule has the standard shape -/
def altAt (prog : Prog) (rid k : Nat) : Option Alt :=
  match prog[rid]? with
  | some r => (match r.body with | .alts as _ _ => as[k]? | _ => none)
  | none => none

/-- `as` are the alternatives of rule `rid` from the `idx`-th on: how `execAlts` is called from `execRule` -/
def AltsAt (prog : Prog) (rid idx : Nat) (as : List Alt) : Prop :=
  ∀ j a, as[j]? = some a → altAt prog rid (idx + j) = some a

def BodyOf (prog : Prog) (rid : Nat) : Body → Prop
  | .alts as _ _ => AltsAt prog rid 0 as
  | _ => True

theorem BodyOf.of_prog {rid : Nat} {r : Rule} (h : prog[rid]? = some r) : BodyOf prog rid r.body := by
  unfold BodyOf
  split
  · rename_i as wo ul hb
    intro j a hj
    simp [altAt, h, hb, hj]
  · trivial

theorem AltsAt.head {rid idx : Nat} {a : Alt} {as : List Alt} (h : AltsAt prog rid idx (a :: as)) : altAt prog rid idx = some a :=
  h 0 a rfl

theorem AltsAt.tail {rid idx : Nat} {a : Alt} {as : List Alt} (h : AltsAt prog rid idx (a :: as)) : AltsAt prog rid (idx + 1) as :=
  fun j b hj => by rw [Nat.add_assoc, Nat.add_comm 1 j]; exact h (j + 1) b hj

/-- `StOp P w f s`: `f` is an operation the interpreter (of the program `P`, on `w`) may apply to the parser state `s`.
    `peek` and `adv` happen only at a token that exists (the one relation that needs it is "no more fetched than there are").
    When `execAlts` fires, the alternative is the `idx`-th of rule `rid` and, at some fuel and from some state, all its
    conjuncts were truthy (the one relation that needs it is "nothing dead has fired").  What is stored is a success, a
    failure that ends where it was asked for, or the answer of a `memo` rule (the one relation that needs it is the verbose
    simulation). -/
inductive StOp (P : Prog) (w : Array RTok) : (St → St) → St → Prop
  | reset (p) {s} : StOp P w (·.reset p) s
  | peek {s} : s.pos < w.size → StOp P w (·.peek) s
  | adv (k) {s} : s.pos < w.size → StOp P w (·.adv k) s
  | setInvalid (i) {s} : StOp P w (·.setInvalid i) s
  | assume {s} : StOp P w (·.assume) s
  | fire {rid idx al n s0 s} : altAt P rid idx = some al → (execItems P w n al.items false [] s0).1 = true → StOp P w (·.fire rid idx) s
  | putOk (p i e) {s} : StOp P w (·.put p i (.ok e)) s
  | putFail (p i) {s} : StOp P w (·.put p i (.fail p)) s
  | putMemo {r} (p i c) {s} : P[i]? = some r → r.deco = .memo → StOp P w (·.put p i c) s

section sim
variable (E : Res → Prop)

/-- `b` is `a`, or `a` raises where `b` succeeds and raising is one of the exceptions allowed for -/
def ActLe (a b : ActKind) : Prop := a = b ∨ (a = .raises ∧ b = .truthy ∧ E .raised)
def AltLe (a b : Alt) : Prop := a.items = b.items ∧ a.cut = b.cut ∧ ActLe E a.act b.act
inductive AltsLe : List Alt → List Alt → Prop
  | nil : AltsLe [] []
  | cons {a b as bs} : AltLe E a b → AltsLe as bs → AltsLe (a :: as) (b :: bs)
def BodyLe : Body → Body → Prop
  | .alts as wo ul, .alts bs wo' ul' => AltsLe E as bs ∧ wo = wo' ∧ ul = ul'
  | .seqAlts ps, .seqAlts qs => ps = qs
  | .unmodelled, .unmodelled => True
  | _, _ => False
def ProgLe (P P' : Prog) : Prop :=
  ∀ id : Nat, (P[id]? = none ∧ P'[id]? = none) ∨ ∃ r r' : Rule, P[id]? = some r ∧ P'[id]? = some r' ∧ r.deco = r'.deco ∧ BodyLe E r.body r'.body

theorem ProgLe.refl (P : Prog) : ProgLe E P P := by
  intro id
  cases h : P[id]? with
  | none => exact .inl ⟨rfl, rfl⟩
  | some r =>
    refine .inr ⟨r, r, rfl, rfl, rfl, ?_⟩
    cases r.body with
    | alts as wo ul =>
      refine ⟨?_, rfl, rfl⟩
      induction as with
      | nil => exact .nil
      | cons a as ih => exact .cons ⟨rfl, rfl, .inl rfl⟩ ih
    | seqAlts ps => exact rfl
    | unmodelled => trivial

variable (R : St → St → Prop)

/-- equal results and related states, unless the first run ended in an exception of `E` (`Q3`, `Q5`: and equal other
    components; written with the projections because the walk rewrites with them) -/
def Q2 (x y : Res × St) : Prop := E x.1 ∨ (x.1 = y.1 ∧ R x.2 y.2)
def Q3 (x y : Nat × Res × St) : Prop := E x.2.1 ∨ (x.1 = y.1 ∧ x.2.1 = y.2.1 ∧ R x.2.2 y.2.2)
def Q5 (x y : Bool × Bool × Res × St × List Bool) : Prop :=
  E x.2.2.1 ∨ (x.1 = y.1 ∧ x.2.1 = y.2.1 ∧ x.2.2.1 = y.2.2.1 ∧ x.2.2.2.2 = y.2.2.2.2 ∧ R x.2.2.2.1 y.2.2.2.1)

/-- `R` relates states that agree on what the interpreter reads, and every state operation keeps it -/
structure SimRel (P : Prog) (w : Array RTok) : Prop where
  agree : ∀ {a b}, R a b → a.pos = b.pos ∧ a.invalid = b.invalid ∧ a.cache = b.cache
  op : ∀ {f a b}, StOp P w f a → R a b → R (f a) (f b)
  /-- the one place where two runs may take different paths: a cached failure of a left-recursive rule -/
  hitFail : ∀ {a b r i e}, P[i]? = some r → r.deco = .leftrec → cacheGet a.cache a.pos i = some (.fail e) → R a b →
          Q2 E R (cacheHit true a (.fail e)) (cacheHit true b (.fail e))

structure SimInv (P P' : Prog) (w : Array RTok) (n m : Nat) : Prop where
  prim : ∀ p a b, R a b → Q2 E R (execPrim P w n p a) (execPrim P' w m p b)
  rule : ∀ id a b, R a b → Q2 E R (execRule P w n id a) (execRule P' w m id b)
  grow : ∀ id bd bd' mark last lastmark a b, BodyLe E bd bd' → BodyOf P id bd → R a b →
          Q2 E R (grow P w n id bd mark last lastmark a) (grow P' w m id bd' mark last lastmark b)
  body : ∀ rid bd bd' a b, BodyLe E bd bd' → BodyOf P rid bd → R a b → Q2 E R (execBody P w n rid bd a) (execBody P' w m rid bd' b)
  seqAlts : ∀ ps mark a b, R a b → Q2 E R (execSeqAlts P w n ps mark a) (execSeqAlts P' w m ps mark b)
  alts : ∀ rid idx as bs mark a b, AltsLe E as bs → AltsAt P rid idx as → R a b →
          Q2 E R (execAlts P w n rid idx as mark a) (execAlts P' w m rid idx bs mark b)
  items : ∀ its cut oks a b, R a b → Q5 E R (execItems P w n its cut oks a) (execItems P' w m its cut oks b)
  item : ∀ it a b, R a b → Q2 E R (execItem P w n it a) (execItem P' w m it b)
  rep : ∀ p mark k a b, R a b → Q3 E R (execRepeat P w n p mark k a) (execRepeat P' w m p mark k b)
  sepRep : ∀ e sp mark k a b, R a b → Q3 E R (execSepRepeat P w n e sp mark k a) (execSepRepeat P' w m e sp mark k b)

variable {E R} {P P' : Prog} {n m : Nat}

theorem simInv_zero (hm : m = 0 ∨ E .outOfFuel) : SimInv E R P P' w 0 m := by
  rcases hm with rfl | he
  · constructor <;> intros <;>
      simp only [execPrim, execRule, grow, execBody, execSeqAlts, execAlts, execItems, execItem, execRepeat, execSepRepeat] <;>
      first | exact .inr ⟨rfl, ‹_›⟩ | exact .inr ⟨rfl, rfl, ‹_›⟩ | exact .inr ⟨rfl, rfl, rfl, rfl, ‹_›⟩
  · constructor <;> intros <;> left <;>
      simpa only [execPrim, execRule, grow, execBody, execSeqAlts, execAlts, execItems, execItem, execRepeat, execSepRepeat] using he

section
variable (hE : ∀ r, E r → r.isAbort = true) (hR : SimRel E R P w)
include hR

theorem SimRel.pos {a b : St} (h : R a b) : a.pos = b.pos := (hR.agree h).1
theorem SimRel.invalid {a b : St} (h : R a b) : a.invalid = b.invalid := (hR.agree h).2.1
theorem SimRel.cache {a b : St} (h : R a b) : a.cache = b.cache := (hR.agree h).2.2

theorem SimRel.tok {q : Prim} {test : RTok → Bool} (hq : leafTest q = some test) {a b : St} (h : R a b) :
    Q2 E R (execPrim P w (n + 1) q a) (execPrim P' w (m + 1) q b) := by
  rw [execPrim_tok hq, execPrim_tok hq, ← hR.pos h]
  cases hw : w[a.pos]? with
  | none => exact .inr ⟨rfl, h⟩
  | some t =>
    have hlt := (Array.getElem?_eq_some_iff.mp hw).1
    apply ite_rel <;> intro _
    · exact .inr ⟨rfl, hR.op (.adv _ hlt) h⟩
    · exact .inr ⟨rfl, hR.op (.peek hlt) h⟩

theorem SimRel.bodyEntry (wo ul : Bool) {a b : St} (h : R a b) :
    (bodyEntry w wo ul a = none ∧ bodyEntry w wo ul b = none) ∨
    ∃ x y, bodyEntry w wo ul a = some x ∧ bodyEntry w wo ul b = some y ∧ R x y := by
  rw [bodyEntry_eq, bodyEntry_eq, ← hR.pos h, ← hR.invalid h]
  cases ul with
  | false => exact .inr ⟨_, _, rfl, rfl, hR.op (.setInvalid _) h⟩
  | true =>
    cases hw : w[a.pos]? with
    | none => exact .inl ⟨rfl, rfl⟩
    | some t => exact .inr ⟨_, _, rfl, rfl, hR.op (.peek (Array.getElem?_eq_some_iff.mp hw).1) (hR.op (.setInvalid _) h)⟩

theorem SimRel.bodyExit (wo : Bool) {a b : St} {x y : Res × St} (h : R a b) (hxy : Q2 E R x y) :
    Q2 E R (x.1, bodyExit wo a.invalid x.1 x.2) (y.1, bodyExit wo b.invalid y.1 y.2) := by
  rcases hxy with he | ⟨h1, h2⟩
  · exact .inl he
  · rw [bodyExit_eq, bodyExit_eq, ← h1, ← hR.invalid h, ← hR.invalid h2]
    exact .inr ⟨rfl, hR.op (.setInvalid _) h2⟩

theorem SimRel.finish (id mark : Nat) (last : Option Nat) (lastmark : Nat) {a b : St} (h : R a b) :
    Q2 E R (grow.finish id mark last lastmark a) (grow.finish id mark last lastmark b) := by
  unfold grow.finish
  cases last with
  | some e => exact .inr ⟨rfl, hR.op (.putOk mark id _) (hR.op (.reset lastmark) h)⟩
  | none => exact .inr ⟨rfl, hR.op (.putFail mark id) (hR.op (.reset mark) (hR.op (.reset lastmark) h))⟩

theorem SimRel.actResult {x y : ActKind} (oks : List Bool) {a b : St} (hact : ActLe E x y) (h : R a b) :
    Q2 E R (actResult x oks a) (actResult y oks b) := by
  rcases hact with rfl | ⟨rfl, rfl, he⟩
  · unfold XV.Peg.actResult
    rw [← hR.pos h]
    cases x with
    | mayRaise | gate _ => exact .inr ⟨rfl, hR.op .assume h⟩
    | viaItem i => apply ite_rel <;> intro _ <;> exact .inr ⟨rfl, h⟩
    | _ => exact .inr ⟨rfl, h⟩
  · exact .inl he

include hE

theorem SimRel.memoStore {r : Rule} (p i : Nat) {x y : Res × St} (hr : P[i]? = some r) (hd : r.deco = .memo) (h : Q2 E R x y) :
    Q2 E R (memoStore p i x) (memoStore p i y) := by
  unfold XV.Peg.memoStore
  rcases h with he | ⟨h1, h2⟩
  · rw [if_pos (hE _ he)]; exact .inl he
  · rw [← h1, ← hR.pos h2]
    apply ite_rel <;> intro _
    · exact .inr ⟨h1, h2⟩
    · exact .inr ⟨rfl, hR.op (.putMemo _ _ _ hr hd) h2⟩

theorem simInv_succ (hP : ProgLe E P P') (ih : SimInv E R P P' w n m) : SimInv E R P P' w (n + 1) (m + 1) := by
  refine ⟨?prim, ?rule, ?grow, ?body, ?seqAlts, ?alts, ?items, ?item, ?rep, ?sepRep⟩
  case prim =>
    intro p a b h
    cases p with
    -- `simp only [f]` finds the clause of `f` by its index; `rw [f, f]` tries all of them in turn, twice
    | rule id => simp only [execPrim]; exact ih.rule id a b h
    | _ => exact hR.tok rfl h
  case rule =>
    intro id a b h
    rw [execRule_succ, execRule_succ]
    rcases hP id with ⟨h1, h2⟩ | ⟨r, r', h1, h2, hd, hb⟩
    · rw [h1, h2]; exact .inr ⟨rfl, h⟩
    · rw [h1, h2]
      simp only []
      rw [← hd, ← hR.cache h, ← hR.pos h]
      have hbo := BodyOf.of_prog h1
      cases hdeco : r.deco with
      | none => exact ih.body id _ _ a b hb hbo h
      | logger => exact ih.body id _ _ a b hb hbo h
      | memo =>
        simp only []
        cases hc : cacheGet a.cache a.pos id with
        | some c =>
          cases c with
          | ok e | fail e => exact .inr ⟨rfl, hR.op (.reset _) h⟩
          | _ => exact .inr ⟨rfl, h⟩
        | none => exact hR.memoStore hE _ _ h1 hdeco (ih.body id _ _ a b hb hbo h)
      | leftrec =>
        simp only []
        cases hc : cacheGet a.cache a.pos id with
        | some c =>
          cases c with
          | fail e => exact hR.hitFail h1 hdeco hc h
          | ok e => exact .inr ⟨rfl, hR.op (.reset _) h⟩
          | _ => exact .inr ⟨rfl, h⟩
        | none => exact ih.grow id _ _ _ _ _ _ _ hb hbo (hR.op (.putFail _ _) h)
  case grow =>
    intro id bd bd' mark last lastmark a b hb hbo h
    rw [grow_succ rfl, grow_succ rfl]
    rcases ih.body id bd bd' _ _ hb hbo (hR.op (.reset mark) h) with he | ⟨h1, h2⟩
    · rw [if_pos (hE _ he)]; exact .inl he
    · rw [← h1, ← hR.pos h2]
      apply ite_rel <;> intro _
      · exact .inr ⟨h1, h2⟩
      · apply ite_rel <;> intro _
        · exact ih.grow _ _ _ _ _ _ _ _ hb hbo (hR.op (.putOk _ _ _) h2)
        · exact hR.finish _ _ _ _ h2
  case body =>
    intro rid bd bd' a b hb hbo h
    cases bd with
    | unmodelled => cases bd' <;> first | exact False.elim hb | (simp only [execBody]; exact .inr ⟨rfl, h⟩)
    | seqAlts ps =>
      cases bd' <;> try exact False.elim hb
      cases hb
      simp only [execBody]; rw [← hR.pos h]
      exact ih.seqAlts ps _ a b h
    | alts as wo ul =>
      cases bd' <;> try exact False.elim hb
      obtain ⟨hab, rfl, rfl⟩ := hb
      simp only [execBody]
      rcases hR.bodyEntry wo ul h with ⟨e1, e2⟩ | ⟨x, y, e1, e2, hxy⟩
      · rw [e1, e2]; exact .inr ⟨rfl, h⟩
      · rw [e1, e2]
        simp only []
        rw [← hR.pos hxy]
        exact hR.bodyExit wo h (ih.alts rid 0 _ _ x.pos x y hab hbo hxy)
  case seqAlts =>
    intro ps mark a b h
    cases ps with
    | nil => simp only [execSeqAlts]; exact .inr ⟨rfl, h⟩
    | cons p ps =>
      rw [execSeqAlts_cons rfl, execSeqAlts_cons rfl]
      rcases ih.prim p a b h with he | ⟨h1, h2⟩
      · left; simpa [hE _ he] using he
      · rw [← h1]
        apply ite_rel <;> intro _
        · exact .inr ⟨h1, h2⟩
        · exact ih.seqAlts ps mark _ _ (hR.op (.reset mark) h2)
  case alts =>
    intro rid idx as bs mark a b hab hat h
    cases hab with
    | nil => simp only [execAlts]; exact .inr ⟨rfl, h⟩
    | @cons al bl as bs hhead htail =>
      obtain ⟨hitems, hcut, hact⟩ := hhead
      rw [execAlts_cons rfl, execAlts_cons rfl, ← hitems]
      rcases ih.items al.items false [] a b h with he | ⟨h1, h2, h3, h4, h5⟩
      · rw [if_pos (hE _ he)]; exact .inl he
      · simp only [← h1, ← h2, ← h3, ← h4]
        apply ite_rel <;> intro _
        · exact .inr ⟨rfl, h5⟩
        · refine ite_rel (fun hok => ?_) (fun _ => ?_)
          · exact hR.actResult _ hact (hR.op (.fire hat.head hok) h5)
          · apply ite_rel <;> intro _
            · exact .inr ⟨rfl, hR.op (.reset mark) h5⟩
            · exact ih.alts _ _ _ _ _ _ _ htail hat.tail (hR.op (.reset mark) h5)
  case items =>
    intro its cut oks a b h
    cases its with
    | nil => simp only [execItems]; rw [← hR.pos h]; exact .inr ⟨rfl, rfl, rfl, rfl, h⟩
    | cons it its =>
      rw [execItems_cons rfl, execItems_cons rfl, ← hR.invalid h, ← hR.pos h]
      apply ite_rel <;> intro _
      · exact ih.items its true _ a b h
      · apply ite_rel <;> intro _
        · apply ite_rel <;> intro _
          · exact ih.items its cut _ a b h
          · exact .inr ⟨rfl, rfl, rfl, rfl, h⟩
        · rcases ih.item it.item a b h with he | ⟨h1, h2⟩
          · rw [if_pos (hE _ he)]; exact .inl he
          · rw [← h1]
            apply ite_rel <;> intro _
            · exact .inr ⟨rfl, rfl, rfl, rfl, h2⟩
            · apply ite_rel <;> intro _
              · exact ih.items its cut _ _ _ h2
              · exact .inr ⟨rfl, rfl, rfl, rfl, h2⟩
  case item =>
    intro it a b h
    cases it with
    | call p => simp only [execItem]; exact ih.prim p a b h
    | seqAlts ps => simp only [execItem]; rw [← hR.pos h]; exact ih.seqAlts ps _ a b h
    | repeated p =>
      rw [execItem_repeated rfl, execItem_repeated rfl, ← hR.pos h]
      rcases ih.rep p a.pos 0 a b h with he | ⟨h1, h2, h3⟩
      · rw [if_pos (hE _ he)]; exact .inl he
      · rw [← h1, ← h2, ← hR.pos h3]
        apply ite_rel <;> intro _
        · exact .inr ⟨rfl, h3⟩
        · apply ite_rel <;> intro _ <;> exact .inr ⟨rfl, h3⟩
    | gathered e sp =>
      rw [execItem_gathered rfl rfl, execItem_gathered rfl rfl, ← hR.pos h]
      rcases ih.seqAlts [e] a.pos a b h with he | ⟨h1, h2⟩
      · rw [if_pos (hE _ he)]; exact .inl he
      · rw [← h1, ← hR.pos h2]
        apply ite_rel <;> intro _
        · exact .inr ⟨h1, h2⟩
        · apply ite_rel <;> intro _
          · rcases ih.sepRep e sp (execSeqAlts P w n [e] a.pos a).2.pos 0 _ _ h2 with he | ⟨_, g2, g3⟩
            · rw [if_pos (hE _ he)]; exact .inl he
            · rw [← g2, ← hR.pos g3]
              apply ite_rel <;> intro _ <;> exact .inr ⟨rfl, g3⟩
          · exact .inr ⟨rfl, hR.op (.reset _) h2⟩
    | posLook p =>
      rw [execItem_posLook rfl, execItem_posLook rfl, ← hR.pos h]
      rcases ih.prim p a b h with he | ⟨h1, h2⟩
      · rw [if_pos (hE _ he)]; exact .inl he
      · rw [← h1]
        apply ite_rel <;> intro _
        · exact .inr ⟨h1, h2⟩
        · apply ite_rel <;> intro _ <;> exact .inr ⟨rfl, hR.op (.reset _) h2⟩
    | negLook p =>
      rw [execItem_negLook rfl, execItem_negLook rfl, ← hR.pos h]
      rcases ih.prim p a b h with he | ⟨h1, h2⟩
      · rw [if_pos (hE _ he)]; exact .inl he
      · rw [← h1]
        apply ite_rel <;> intro _
        · exact .inr ⟨h1, h2⟩
        · apply ite_rel <;> intro _ <;> exact .inr ⟨rfl, hR.op (.reset _) h2⟩
    | forced p what =>
      rw [execItem_forced rfl, execItem_forced rfl]
      rcases ih.prim p a b h with he | ⟨h1, h2⟩
      · left; simpa [hE _ he] using he
      · rw [← h1]
        apply ite_rel <;> intro _
        · exact .inr ⟨h1, h2⟩
        · exact .inr ⟨rfl, h2⟩
    | setCut => simp only [execItem]; rw [← hR.pos h]; exact .inr ⟨rfl, h⟩
    | guardInvalid => simp only [execItem]; rw [← hR.pos h, ← hR.invalid h]; apply ite_rel <;> intro _ <;> exact .inr ⟨rfl, h⟩
  case rep =>
    intro p mark k a b h
    rw [execRepeat_succ rfl, execRepeat_succ rfl]
    rcases ih.prim p a b h with he | ⟨h1, h2⟩
    · rw [if_pos (hE _ he)]; exact .inl he
    · rw [← h1, ← hR.pos h2]
      apply ite_rel <;> intro _
      · exact .inr ⟨rfl, rfl, h2⟩
      · apply ite_rel <;> intro _
        · exact ih.rep p _ _ _ _ h2
        · exact .inr ⟨rfl, rfl, hR.op (.reset mark) h2⟩
  case sepRep =>
    intro e sp mark k a b h
    rw [execSepRepeat_succ rfl rfl, execSepRepeat_succ rfl rfl]
    rcases ih.prim sp a b h with he | ⟨h1, h2⟩
    · rw [if_pos (hE _ he)]; exact .inl he
    · rw [← h1, ← hR.pos h2]
      apply ite_rel <;> intro _
      · exact .inr ⟨rfl, rfl, h2⟩
      · apply ite_rel <;> intro _
        · rcases ih.seqAlts [e] (execPrim P w n sp a).2.pos _ _ h2 with he | ⟨g1, g2⟩
          · rw [if_pos (hE _ he)]; exact .inl he
          · rw [← g1, ← hR.pos g2]
            apply ite_rel <;> intro _
            · exact .inr ⟨rfl, rfl, g2⟩
            · apply ite_rel <;> intro _
              · exact ih.sepRep e sp _ _ _ _ g2
              · exact .inr ⟨rfl, rfl, hR.op (.reset mark) g2⟩
        · exact .inr ⟨rfl, rfl, hR.op (.reset mark) h2⟩

theorem exec_sim (hP : ProgLe E P P') : ∀ n m, n = m ∨ (n ≤ m ∧ E .outOfFuel) → SimInv E R P P' w n m := by
  intro n
  induction n with
  | zero => intro m hm; exact simInv_zero (hm.imp (·.symm) (·.2))
  | succ n ih =>
    intro m hm
    cases m with
    | zero => rcases hm with h | ⟨h, _⟩ <;> cases h
    | succ m => exact simInv_succ hE hR hP (ih m (hm.imp Nat.succ.inj (·.imp Nat.le_of_succ_le_succ id)))

end

theorem SimRel.eq (E : Res → Prop) (P : Prog) (w : Array RTok) : SimRel E Eq P w where
  agree h := h ▸ ⟨rfl, rfl, rfl⟩
  op _ h := h ▸ rfl
  hitFail _ _ _ h := h ▸ .inr ⟨rfl, rfl⟩

theorem execRule_eq_unless (hE : ∀ r, E r → r.isAbort = true) (hP : ProgLe E P P') (hnm : n = m ∨ (n ≤ m ∧ E .outOfFuel))
    (id : Nat) (s : St) : E (execRule P w n id s).1 ∨ execRule P w n id s = execRule P' w m id s :=
  ((exec_sim hE (SimRel.eq E P w) hP n m hnm).rule id s s rfl).imp_right fun h => Prod.ext h.1 h.2

end sim

/-- a predicate on states that every state operation keeps -/
structure Closed (I : St → Prop) (P : Prog) (w : Array RTok) : Prop where
  op : ∀ {f s}, StOp P w f s → I s → I (f s)

theorem Closed.simRel {I : St → Prop} {P : Prog} (h : Closed I P w) : SimRel (fun _ => False) (fun a b => a = b ∧ I a) P w where
  agree h := h.1 ▸ ⟨rfl, rfl, rfl⟩
  op g := fun ⟨e, hi⟩ => ⟨e ▸ rfl, h.op g hi⟩
  hitFail _ _ _ := fun ⟨e, hi⟩ => e ▸ .inr ⟨rfl, rfl, by simp only [cacheHit]; split; exact hi; exact h.op (.reset _) hi⟩

theorem Closed.execRule {I : St → Prop} {P : Prog} (h : Closed I P w) (n id : Nat) (s : St) (hs : I s) : I (execRule P w n id s).2 :=
  (((exec_sim (fun _ => False.elim) h.simRel (ProgLe.refl _ P) n n (.inl rfl)).rule id s s ⟨rfl, hs⟩).resolve_left fun h => h).2.2

end XV.Peg
