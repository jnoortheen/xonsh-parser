/-
  C03 (parser half) — soundness of the well-formedness checker `wfCert`: a program that passes it
  terminates on EVERY token list: there is a fuel with which neither pass of `Parser.parse` runs out.

  Shape of the proof.  Recursion on the lexicographic measure
    (tokens left, left-recursion leaders not yet in the cache at the current position, rank of the rule)
  (`rule_term_all`, whose step is `rule_step`).  Inside the frame of one rule the induction hypothesis is used in one form only
  (`FrameCalls`, from `frameCalls`): every rule call the checker allows where the frame was entered, and every call further
  right, terminates.  The frame lemmas (`prim_term` ... `grow_term`) need nothing else: structural inductions over
  alternatives and items, inductions on the tokens left for the `repeated` / `gathered` / seed-growing loops.
  Invariant (`Inv`, `Post`): every cache entry ends no earlier than it starts, strictly later for a success of a
  non-nullable rule; the cache only grows.
  Termination is stated without a fuel: `Runs f r` says that the call `f` answers `r` for every fuel from some point on;
  a clause of the interpreter whose calls have settled settles one unit of fuel later (`Runs.map`), so no fuel is ever
  computed and fuel monotonicity is not used.  `Term` = `Runs` to an answer that is `Fin`.
-/
import XonshVerif.Model.PegWf
import XonshVerif.Proofs.PegStep
import XonshVerif.Proofs.ListAux
namespace XV.Peg

section
variable (prog : Prog) (W : WfW) (w : Array RTok)

def EntryOK (p id : Nat) : Res → Prop
  | .ok e => p ≤ e ∧ e ≤ w.size ∧ (W.nullable id = false → p < e)
  | .fail e => p ≤ e ∧ e ≤ w.size
  | _ => False

structure Inv (s : St) : Prop where
  pos_le : s.pos ≤ w.size
  size : s.cache.size = w.size + 1
  entries : ∀ p id r, cacheGet s.cache p id = some r → EntryOK W w p id r

/-- the cache only grows -/
def DomLe (s s' : St) : Prop := ∀ p id, cacheGet s.cache p id ≠ none → cacheGet s'.cache p id ≠ none

structure Post (s s' : St) : Prop where
  inv : Inv W w s'
  pos : s.pos ≤ s'.pos
  dom : DomLe s s'

/-- number of left-recursion leaders without a cache entry at position `p` -/
def Ucount (s : St) (p : Nat) : Nat :=
  (List.range prog.size).countP (fun id => W.lr id && (cacheGet s.cache p id).isNone)

/-- the same, not counting the rule about to be called if it is such a leader: it stores its seed entry before anything else,
    so inside its own frame the count is one less (`rule_step`, the `leftrec` case) -/
def Ueff (s : St) (id : Nat) : Nat :=
  if (W.lr id && (cacheGet s.cache s.pos id).isNone) = true then Ucount prog W s s.pos - 1 else Ucount prog W s s.pos

end

variable {prog : Prog} {W : WfW} {w : Array RTok}

/-- further right, fewer tokens are left (the measure of the loops and of the induction) -/
theorem left_lt {n a b d : Nat} (hd : n - a = d) (h : a < b) (hle : b ≤ n) : n - b < d :=
  hd ▸ Nat.sub_lt_sub_left (Nat.lt_of_lt_of_le h hle) h

theorem isAbort_raised : Res.raised.isAbort = true := rfl
theorem isAbort_undecided : Res.undecided.isAbort = true := rfl
theorem isAbort_tokErr : Res.tokErr.isAbort = true := rfl

theorem DomLe.refl (s : St) : DomLe s s := fun _ _ h => h
theorem DomLe.trans {a b c : St} (h1 : DomLe a b) (h2 : DomLe b c) : DomLe a c := fun p id h => h2 p id (h1 p id h)
theorem DomLe.of_cache_eq {a b : St} (h : b.cache = a.cache) : DomLe a b := by intro p id hh; rw [h]; exact hh
theorem DomLe.put (s : St) (p i : Nat) (r : Res) : DomLe s (s.put p i r) := by
  intro p' i' hh
  rw [St.put, cacheGet_cachePut]
  split
  · simp
  · exact hh

theorem Inv.of_eq {s s' : St} (h : Inv W w s) (hc : s'.cache = s.cache) (hp : s'.pos ≤ w.size) : Inv W w s' :=
  ⟨hp, by rw [hc]; exact h.size, by rw [hc]; exact h.entries⟩

theorem Inv.reset {s : St} (h : Inv W w s) (m : Nat) (hm : m ≤ w.size) : Inv W w (s.reset m) := h.of_eq rfl hm

theorem Inv.put {s : St} (h : Inv W w s) (p i : Nat) (r : Res) (hr : EntryOK W w p i r) : Inv W w (s.put p i r) := by
  refine ⟨h.pos_le, ?_, ?_⟩
  · unfold St.put cachePut; split
    · rw [Array.size_set]; exact h.size
    · exact h.size
  · intro p' i' r' hg
    rcases cacheGet_cachePut_some (c := s.cache) hg with ⟨rfl, rfl, rfl⟩ | h0
    · exact hr
    · exact h.entries p' i' r' h0

theorem Post.refl {s : St} (h : Inv W w s) : Post W w s s := ⟨h, Nat.le_refl _, DomLe.refl s⟩
theorem Post.trans {a b c : St} (h1 : Post W w a b) (h2 : Post W w b c) : Post W w a c :=
  ⟨h2.inv, Nat.le_trans h1.pos h2.pos, h1.dom.trans h2.dom⟩

theorem Post.of_eq {s s0 s1 : St} (h : Post W w s s0) (hc : s1.cache = s0.cache) (hp : s1.pos = s0.pos) : Post W w s s1 :=
  ⟨h.inv.of_eq hc (by rw [hp]; exact h.inv.pos_le), by rw [hp]; exact h.pos, fun p id hh => by rw [hc]; exact h.dom p id hh⟩

theorem Post.reset_self {s s' : St} (hs : Inv W w s) (h : Post W w s s') : Post W w s (s'.reset s.pos) :=
  ⟨h.inv.reset s.pos hs.pos_le, Nat.le_refl _, h.dom⟩

theorem uncached_of_domLe {s s' : St} (h : DomLe s s') {p id : Nat} (hid : (W.lr id && (cacheGet s'.cache p id).isNone) = true) :
    (W.lr id && (cacheGet s.cache p id).isNone) = true := by
  rw [Bool.and_eq_true, Option.isNone_iff_eq_none] at hid ⊢
  exact ⟨hid.1, Classical.byContradiction fun hne => h p id hne hid.2⟩

theorem Ucount_mono {s s' : St} (h : DomLe s s') (p : Nat) : Ucount prog W s' p ≤ Ucount prog W s p :=
  List.countP_mono_left fun _ _ => uncached_of_domLe h

theorem countP_lt_of {α} (l : List α) (p q : α → Bool) (himp : ∀ x ∈ l, p x = true → q x = true) (a : α) (ha : a ∈ l) (hq : q a = true) (hp : p a = false) :
    l.countP p < l.countP q := by
  have e : l.filter p = (l.filter q).filter p := by
    rw [List.filter_filter]
    exact List.filter_congr fun x hx => by
      cases hpx : p x
      · rfl
      · rw [himp x hx hpx]; rfl
  rw [List.countP_eq_length_filter, List.countP_eq_length_filter, e]
  exact List.length_filter_lt_length_iff_exists.mpr ⟨a, List.mem_filter.mpr ⟨ha, hq⟩, by simp [hp]⟩

theorem Ucount_put_lt {s : St} (p i : Nat) (r : Res) (hsz : p < s.cache.size)
    (hi : i < prog.size) (hlr : W.lr i = true) (hnone : cacheGet s.cache p i = none) :
    Ucount prog W (s.put p i r) p < Ucount prog W s p := by
  refine countP_lt_of _ _ _ (fun _ _ => uncached_of_domLe (DomLe.put s p i r)) i (List.mem_range.mpr hi) (by simp [hlr, hnone]) ?_
  rw [St.put, cacheGet_cachePut]; simp [hsz]

/-- the call `f` (a function of its fuel) answers `r` for every fuel from some point on -/
def Runs {α : Type} (f : Nat → α) (r : α) : Prop := ∃ N, ∀ m, N ≤ m → f m = r

theorem Runs.of_succ {α : Type} {f : Nat → α} {r : α} (N : Nat) (h : ∀ m, N ≤ m → f (m + 1) = r) : Runs f r :=
  ⟨N + 1, fun m hm => by
    cases m with
    | zero => cases hm
    | succ m => exact h m (Nat.le_of_succ_le_succ hm)⟩

/-- the definition, with `f` applied: for a `fun`, unfolding `Runs` leaves `(fun n => ..) m`, which `rw` does not see through -/
theorem Runs.spec {α : Type} {f : Nat → α} {r : α} (h : Runs f r) : ∃ N, ∀ m, N ≤ m → f m = r := h

/-- a clause that makes no call -/
theorem Runs.const {α : Type} {g : Nat → α} {b : α} (h : ∀ m, g (m + 1) = b) : Runs g b := .of_succ 0 fun m _ => h m

/-- a clause whose one call has settled (`map₂`, `map₃`: two, three calls, or calls and the tail call that gives the answer) -/
theorem Runs.map {α β : Type} {f : Nat → α} {g : Nat → β} {a : α} {b : β} (hf : Runs f a) (hg : ∀ m, f m = a → g (m + 1) = b) :
    Runs g b :=
  hf.elim fun N hN => .of_succ N fun m hm => hg m (hN m hm)

theorem Runs.map₂ {α α' β : Type} {f : Nat → α} {f' : Nat → α'} {g : Nat → β} {a : α} {a' : α'} {b : β} (hf : Runs f a) (hf' : Runs f' a')
    (hg : ∀ m, f m = a → f' m = a' → g (m + 1) = b) : Runs g b := by
  obtain ⟨N, hN⟩ := hf
  obtain ⟨N', hN'⟩ := hf'
  exact .of_succ (max N N') fun m hm => hg m (hN m (Nat.max_le.mp hm).1) (hN' m (Nat.max_le.mp hm).2)

theorem Runs.map₃ {α α' α'' β : Type} {f : Nat → α} {f' : Nat → α'} {f'' : Nat → α''} {g : Nat → β} {a : α} {a' : α'} {a'' : α''} {b : β}
    (hf : Runs f a) (hf' : Runs f' a') (hf'' : Runs f'' a'') (hg : ∀ m, f m = a → f' m = a' → f'' m = a'' → g (m + 1) = b) : Runs g b := by
  obtain ⟨N, hN⟩ := hf
  obtain ⟨N', hN'⟩ := hf'
  obtain ⟨N'', hN''⟩ := hf''
  exact .of_succ (max N (max N' N'')) fun m hm =>
    have ⟨h, h'⟩ := Nat.max_le.mp hm
    hg m (hN m h) (hN' m (Nat.max_le.mp h').1) (hN'' m (Nat.max_le.mp h').2)

section
variable (W : WfW) (w : Array RTok)
/-- what the answer of a call from `s` must satisfy: it is an answer, it re-establishes the invariant, the position did
    not move left, and it moved right if the call succeeded and `nn` says it must consume -/
def Fin (s : St) (nn : Bool) (r : Res × St) : Prop :=
  r.1 ≠ .outOfFuel ∧ Post W w s r.2 ∧ (nn = true → r.1.isOk = true → s.pos < r.2.pos)
def Term (s : St) (f : Nat → Res × St) (nn : Bool) : Prop := ∃ r, Runs f r ∧ Fin W w s nn r
end

theorem Fin.ofFail {s s' : St} {nn : Bool} {m : Nat} (h : Post W w s s') : Fin W w s nn (.fail m, s') := ⟨nofun, h, fun _ h => nomatch h⟩

theorem Fin.ofAbort {s : St} {nn : Bool} {r : Res × St} (ha : r.1.isAbort = true) (hne : r.1 ≠ .outOfFuel) (h : Post W w s r.2) :
    Fin W w s nn r := ⟨hne, h, fun _ hok => by rw [Res.isOk_false_of_abort ha] at hok; cases hok⟩

/-- a call seen from an earlier state of the same frame -/
theorem Fin.from {s s' : St} {nn : Bool} {r : Res × St} (h : Fin W w s' nn r) (hp : s.pos = s'.pos) (hd : DomLe s s') : Fin W w s nn r :=
  ⟨h.1, ⟨h.2.1.inv, hp ▸ h.2.1.pos, hd.trans h.2.1.dom⟩, hp ▸ h.2.2⟩

theorem Term.const {s : St} {f : Nat → Res × St} {nn : Bool} {r : Res × St} (h : ∀ m, f (m + 1) = r) (hr : Fin W w s nn r) : Term W w s f nn :=
  ⟨r, .const h, hr⟩

/-- a clause that hands on to another call -/
theorem Term.wrap {s : St} {f g : Nat → Res × St} {nn : Bool} (h : Term W w s f nn) (he : ∀ m, g (m + 1) = f m) : Term W w s g nn :=
  h.elim fun r ⟨hr, hfin⟩ => ⟨r, hr.map fun m e => (he m).trans e, hfin⟩

theorem tok_term {q : Prim} {test : RTok → Bool} (hq : leafTest q = some test) (s : St) {nn : Bool} (hinv : Inv W w s) :
    Term W w s (fun n => execPrim prog w n q s) nn := by
  refine .const (fun m => execPrim_tok hq s) ?_
  cases hw : w[s.pos]? with
  | none => exact .ofAbort rfl nofun (Post.refl hinv)
  | some t =>
    have hlt := (Array.getElem?_eq_some_iff.mp hw).1
    apply ite_ind <;> intro _
    · exact ⟨nofun, ⟨hinv.of_eq rfl hlt, Nat.le_succ _, DomLe.of_cache_eq rfl⟩, fun _ _ => Nat.lt_succ_self _⟩
    · exact .ofFail ⟨hinv.of_eq rfl hinv.pos_le, Nat.le_refl _, DomLe.of_cache_eq rfl⟩

theorem cacheHit_fin (lr : Bool) {id : Nat} {s : St} (hinv : Inv W w s) {c : Res} (hc : cacheGet s.cache s.pos id = some c) :
    Fin W w s (!W.nullable id) (cacheHit lr s c) := by
  have he := hinv.entries s.pos id c hc
  cases c with
  | ok e => exact ⟨nofun, ⟨hinv.reset e he.2.1, he.1, DomLe.of_cache_eq rfl⟩, fun hnn _ => he.2.2 (by simpa using hnn)⟩
  | fail e =>
    simp only [cacheHit]
    split
    · exact .ofFail (Post.refl hinv)
    · exact .ofFail ⟨hinv.reset e he.2, he.1, DomLe.of_cache_eq rfl⟩
  | _ => exact he.elim

theorem memoStore_fin {s : St} {id : Nat} {nn : Bool} {x : Res × St} (h : Fin W w s nn x) (hnn : W.nullable id = false → nn = true) :
    Fin W w s nn (memoStore s.pos id x) := by
  unfold memoStore
  split
  · exact h
  · obtain ⟨h1, h2, h3⟩ := h
    have hle := h2.inv.pos_le
    refine ⟨h1, ⟨h2.inv.put s.pos id _ ?_, h2.pos, h2.dom.trans (DomLe.put _ s.pos id _)⟩, h3⟩
    split
    · exact ⟨h2.pos, hle, fun hnull => h3 (hnn hnull) ‹_›⟩
    · exact ⟨h2.pos, hle⟩

/-- the seed-growing loop answers like a call made at `mark` that consumes when it succeeds -/
theorem finish_fin (id mark : Nat) (last : Option Nat) (lastmark : Nat) (s : St) (hinv : Inv W w s) (hm : mark ≤ lastmark) (hle : lastmark ≤ w.size)
    (hl : last ≠ none → mark < lastmark) : Fin W w (s.reset mark) true (grow.finish id mark last lastmark s) := by
  unfold grow.finish
  cases last with
  | some e =>
    have hlt := hl nofun
    exact ⟨nofun, ⟨(hinv.reset lastmark hle).put mark id (.ok lastmark) ⟨hm, hle, fun _ => hlt⟩, hm,
      DomLe.put (s.reset lastmark) mark id (.ok lastmark)⟩, fun _ _ => hlt⟩
  | none =>
    exact .ofFail ⟨((hinv.reset lastmark hle).reset mark (Nat.le_trans hm hle)).put mark id (.fail mark)
        ⟨Nat.le_refl _, Nat.le_trans hm hle⟩, Nat.le_refl _, DomLe.put ((s.reset lastmark).reset mark) mark id (.fail mark)⟩

theorem actResult_fin {s s0 : St} (act : ActKind) (oks : List Bool) (nn : Bool) (h : Post W w s s0) (hadv : nn = true → s.pos < s0.pos) :
    Fin W w s nn (actResult act oks s0) := by
  cases act with
  | truthy | mayRaise | gate _ => exact ⟨nofun, h.of_eq rfl rfl, fun hnn _ => hadv hnn⟩
  | raises | unknown => exact ⟨nofun, h, nofun⟩
  | none => exact .ofFail h
  | viaItem i =>
    apply ite_ind <;> intro _
    · exact ⟨nofun, h, fun hnn _ => hadv hnn⟩
    · exact .ofFail h

/-- a rule call that finds its answer in the cache returns at once -/
theorem hit_term {id : Nat} {s : St} {r : Rule} {c : Res} (hinv : Inv W w s) (hr : prog[id]? = some r) (hd : r.deco = .memo ∨ r.deco = .leftrec)
    (hc : cacheGet s.cache s.pos id = some c) : Term W w s (fun n => execRule prog w n id s) (!W.nullable id) := by
  rcases hd with hd | hd
  · exact .const (fun m => by rw [execRule_succ, hr]; simp only [hd, hc]) (cacheHit_fin false hinv hc)
  · exact .const (fun m => by rw [execRule_succ, hr]; simp only [hd, hc]) (cacheHit_fin true hinv hc)

section
variable (prog : Prog) (W : WfW) (w : Array RTok)
/-- what the induction hypothesis provides inside the frame of a rule entered with `rem` tokens left, `u` uncached
    leaders and rank `rk`: every rule call that is smaller in the lexicographic order terminates -/
def CalleeOK (rem u rk : Nat) : Prop :=
  ∀ id s, Inv W w s →
    (w.size - s.pos < rem ∨ (w.size - s.pos ≤ rem ∧ (Ueff prog W s id < u ∨ (Ueff prog W s id ≤ u ∧ W.rank id < rk)))) →
    Term W w s (fun n => execRule prog w n id s) (!W.nullable id)

/-- the rule calls the frame of rule `rid`, entered in state `s0`, may make: from any later state, every rule that `primOK`
    allows where the frame was entered terminates -/
def FrameCalls (s0 : St) (rid : Nat) : Prop :=
  ∀ id s, Post W w s0 s → (s.pos = s0.pos → (W.lr id = true ∨ W.rank id < W.rank rid)) →
    Term W w s (fun n => execRule prog w n id s) (!W.nullable id)
end

/-- ... which is what the induction hypothesis gives: further right everything is smaller; at `mark` a leader without a
    cache entry lowers the count of such leaders, one with an entry returns at once, and any other rule has a smaller rank -/
theorem frameCalls (hwf : ∀ id r, prog[id]? = some r → ruleOK W id r = true) {s0 : St} {rid rem u rk : Nat} (hrem : w.size - s0.pos ≤ rem)
    (hu0 : Ucount prog W s0 s0.pos ≤ u) (hrk : W.rank rid ≤ rk) (H : CalleeOK prog W w rem u rk) : FrameCalls prog W w s0 rid := by
  intro id s ⟨hinv, hge, hdom⟩ hok
  have hu := Nat.le_trans (Ucount_mono (prog := prog) (W := W) hdom s0.pos) hu0
  cases hr : prog[id]? with
  | none => exact .const (r := (.undecided, s)) (fun m => by rw [execRule_succ, hr]) (.ofAbort rfl nofun (Post.refl hinv))
  | some r =>
    by_cases hpos : s.pos = s0.pos
    · rcases hok hpos with hlr | hrank
      · cases hc : cacheGet s.cache s.pos id with
        | some c =>
          have := hwf id r hr
          simp only [ruleOK, hlr, Bool.and_eq_true, beq_iff_eq] at this
          exact hit_term hinv hr (.inr (by simpa using this.1.1.symm)) hc
        | none =>
          refine H id s hinv (.inr ⟨hpos ▸ hrem, .inl ?_⟩)
          have : 0 < Ucount prog W s s.pos :=
            List.countP_pos_iff.mpr ⟨id, List.mem_range.mpr (Array.getElem?_eq_some_iff.mp hr).1, by simp [hlr, hc]⟩
          unfold Ueff
          simp only [hlr, hc, Option.isNone_none, Bool.and_self, if_true]
          rw [hpos] at this ⊢
          exact Nat.lt_of_lt_of_le (Nat.sub_lt this Nat.one_pos) hu
      · refine H id s hinv (.inr ⟨hpos ▸ hrem, .inr ⟨?_, Nat.lt_of_lt_of_le hrank hrk⟩⟩)
        unfold Ueff
        split <;> rw [hpos]
        · exact Nat.le_trans (Nat.sub_le _ _) hu
        · exact hu
    · have hlt : s0.pos < s.pos := Nat.lt_of_le_of_ne hge (Ne.symm hpos)
      exact H id s hinv (.inl (Nat.lt_of_lt_of_le (left_lt rfl hlt hinv.pos_le) hrem))

theorem itemsOK_cons {rid : Nat} {it : AltItem} {its : List AltItem} (h : itemsOK W rid (it :: its) = true) :
    itemLoopOK W it.item = true ∧ itemFirstOK W rid it.item = true ∧
      (if altItemNN W it then its.all (fun j => itemLoopOK W j.item) = true else itemsOK W rid its = true) := by
  simp only [itemsOK, Bool.and_eq_true] at h
  refine ⟨h.1.1, h.1.2, ?_⟩
  split <;> simp_all

theorem itemsOK_loop {rid : Nat} (its : List AltItem) (h : itemsOK W rid its = true) : its.all (fun j => itemLoopOK W j.item) = true := by
  induction its with
  | nil => rfl
  | cons it its ih =>
    obtain ⟨h1, -, h3⟩ := itemsOK_cons h
    rw [List.all_cons, h1, Bool.true_and]
    split at h3
    · exact h3
    · exact ih h3

theorem altItemNN_marker {it : AltItem} (h : it.item = .setCut ∨ it.item = .guardInvalid) : altItemNN W it = false := by
  rcases h with h | h <;> simp [altItemNN, h, itemNN]

section frame
variable {s0 : St} {rid : Nat} (HR : FrameCalls prog W w s0 rid)
include HR

theorem prim_term (p : Prim) (s : St) (hs : Post W w s0 s) (hp : s.pos = s0.pos → primOK W rid p = true) :
    Term W w s (fun n => execPrim prog w n p s) (primNN W p) := by
  cases p with
  | rule id =>
    exact (HR id s hs fun h => by simpa [primOK] using hp h).wrap fun m => by rw [execPrim]
  | _ => exact tok_term rfl s hs.inv

theorem seqAlts_term (ps : List Prim) (s : St) (hs : Post W w s0 s) (hp : s.pos = s0.pos → ps.all (primOK W rid) = true) :
    Term W w s (fun n => execSeqAlts prog w n ps s.pos s) (ps.all (primNN W)) := by
  induction ps generalizing s with
  | nil => exact .const (fun m => by rw [execSeqAlts]) (.ofFail (Post.refl hs.inv))
  | cons p ps ih =>
    simp only [List.all_cons, Bool.and_eq_true] at hp ⊢
    obtain ⟨x, hx, h1, hP1, hnn1⟩ := prim_term HR p s hs (fun h => (hp h).1)
    by_cases hc : (x.1.isAbort || x.1.isOk) = true
    · exact ⟨x, hx.map fun m e => by rw [execSeqAlts_cons e, if_pos hc], h1, hP1, fun hnn => hnn1 (Bool.and_eq_true_iff.mp hnn).1⟩
    · obtain ⟨y, hy, h2, hP2, hnn2⟩ := ih (x.2.reset s.pos) (hs.trans (hP1.reset_self hs.inv)) (fun h => (hp h).2)
      exact ⟨y, hx.map₂ hy fun m e e' => by rw [execSeqAlts_cons e, if_neg hc]; exact e', h2, (hP1.reset_self hs.inv).trans hP2,
        fun hnn => hnn2 (Bool.and_eq_true_iff.mp hnn).2⟩

theorem repeat_term (p : Prim) (hnn : primNN W p = true) (d : Nat) : ∀ (s : St) (k : Nat), w.size - s.pos = d → Post W w s0 s →
    (s.pos = s0.pos → primOK W rid p = true) →
    ∃ r, Runs (fun n => execRepeat prog w n p s.pos k s) r ∧ res3 r ≠ .outOfFuel ∧ Post W w s (st3 r) ∧ (r.1 = k ∨ s.pos < (st3 r).pos) := by
  induction d using Nat.strongRecOn with
  | _ d ih =>
    intro s k hd hs hp
    obtain ⟨x, hx, h1, hP1, hnn1⟩ := prim_term HR p s hs hp
    by_cases ha : x.1.isAbort = true
    · exact ⟨(k, x), hx.map fun m e => by rw [execRepeat_succ e, if_pos ha], h1, hP1, .inl rfl⟩
    · by_cases hok : x.1.isOk = true
      · have hadv := hnn1 hnn hok
        have hle := hP1.inv.pos_le
        obtain ⟨y, hy, h2, hP2, hc2⟩ := ih (w.size - x.2.pos) (left_lt hd hadv hle) x.2 (k + 1) rfl (hs.trans hP1)
          (fun h => absurd (h ▸ hadv) (Nat.not_lt.mpr hs.pos))
        exact ⟨y, hx.map₂ hy fun m e e' => by rw [execRepeat_succ e, if_neg ha, if_pos hok]; exact e', h2, hP1.trans hP2,
          .inr (Nat.lt_of_lt_of_le hadv hP2.pos)⟩
      · exact ⟨(k, .ok s.pos, x.2.reset s.pos), hx.map fun m e => by rw [execRepeat_succ e, if_neg ha, if_neg hok], nofun, hP1.reset_self hs.inv, .inl rfl⟩

theorem sepRepeat_term (e sp : Prim) (hnn : primNN W e = true) (d : Nat) : ∀ (s : St) (k : Nat), w.size - s.pos = d → Post W w s0 s →
    s0.pos < s.pos →
    ∃ r, Runs (fun n => execSepRepeat prog w n e sp s.pos k s) r ∧ res3 r ≠ .outOfFuel ∧ Post W w s (st3 r) := by
  induction d using Nat.strongRecOn with
  | _ d ih =>
    intro s k hd hs hlt
    obtain ⟨x, hx, h1, hP1, -⟩ := prim_term HR sp s hs (fun h => absurd h (Nat.ne_of_gt hlt))
    have hs1 := hs.trans hP1
    have hlt1 := Nat.lt_of_lt_of_le hlt hP1.pos
    obtain ⟨y, hy, h2, hP2, hnn2⟩ := seqAlts_term HR [e] x.2 hs1 (fun h => absurd h (Nat.ne_of_gt hlt1))
    by_cases ha : x.1.isAbort = true
    · exact ⟨(k, x), hx.map fun m ex => by rw [execSepRepeat_succ ex rfl, if_pos ha], h1, hP1⟩
    · by_cases hok : x.1.isOk = true
      · by_cases ha2 : y.1.isAbort = true
        · exact ⟨(k, y), hx.map₂ hy fun m ex ey => by rw [execSepRepeat_succ ex ey, if_neg ha, if_pos hok, if_pos ha2], h2, hP1.trans hP2⟩
        · by_cases hok2 : y.1.isOk = true
          · have hadv := Nat.lt_of_le_of_lt hP1.pos (hnn2 (by simp [hnn]) hok2)
            obtain ⟨z, hz, h3, hP3⟩ := ih (w.size - y.2.pos) (left_lt hd hadv hP2.inv.pos_le) y.2 (k + 1) rfl (hs1.trans hP2) (Nat.lt_trans hlt hadv)
            exact ⟨z, hx.map₃ hy hz fun m ex ey ez => by
              rw [execSepRepeat_succ ex ey, if_neg ha, if_pos hok, if_neg ha2, if_pos hok2]; exact ez, h3, (hP1.trans hP2).trans hP3⟩
          · exact ⟨(k, .ok s.pos, y.2.reset s.pos), hx.map₂ hy fun m ex ey => by
              rw [execSepRepeat_succ ex ey, if_neg ha, if_pos hok, if_neg ha2, if_neg hok2], nofun, (hP1.trans hP2).reset_self hs.inv⟩
      · exact ⟨(k, .ok s.pos, x.2.reset s.pos), hx.map fun m ex => by rw [execSepRepeat_succ ex rfl, if_neg ha, if_neg hok], nofun, hP1.reset_self hs.inv⟩

theorem item_term (it : Item) (s : St) (hs : Post W w s0 s) (hloop : itemLoopOK W it = true)
    (hfirst : s.pos = s0.pos → itemFirstOK W rid it = true) :
    Term W w s (fun n => execItem prog w n it s) (itemNN W it) := by
  have prim := prim_term HR
  cases it with
  | call p =>
    exact (prim p s hs hfirst).wrap fun m => by rw [execItem]
  | seqAlts ps =>
    exact (seqAlts_term HR ps s hs hfirst).wrap fun m => by rw [execItem]
  | repeated p =>
    obtain ⟨x, hx, h1, h2, h3⟩ := repeat_term HR p hloop (w.size - s.pos) s 0 rfl hs hfirst
    refine ⟨_, hx.map fun m e => execItem_repeated e, ?_⟩
    apply ite_ind <;> intro ha
    · exact .ofAbort ha h1 h2
    · apply ite_ind <;> intro hz
      · exact .ofFail h2
      · exact ⟨nofun, h2, fun _ _ => h3.resolve_left hz⟩
  | gathered e sp =>
    obtain ⟨x, hx, h1, hP1, hnn1⟩ := seqAlts_term HR [e] s hs (fun h => by simpa [itemFirstOK] using hfirst h)
    by_cases ha : x.1.isAbort = true
    · exact ⟨x, hx.map fun m ex => by rw [execItem_gathered ex rfl, if_pos ha], .ofAbort ha h1 hP1⟩
    · by_cases hok : x.1.isOk = true
      · have hnne : primNN W e = true := hloop
        have hadv := hnn1 (by simp [hnne]) hok
        obtain ⟨y, hy, h2, hP2⟩ := sepRepeat_term HR e sp hnne (w.size - x.2.pos) x.2 0 rfl (hs.trans hP1) (Nat.lt_of_le_of_lt hs.pos hadv)
        refine ⟨_, hx.map₂ hy fun m ex ey => by rw [execItem_gathered ex ey, if_neg ha, if_pos hok], ?_⟩
        apply ite_ind <;> intro ha2
        · exact .ofAbort ha2 h2 (hP1.trans hP2)
        · exact ⟨nofun, hP1.trans hP2, fun _ _ => Nat.lt_of_lt_of_le hadv hP2.pos⟩
      · exact ⟨_, hx.map fun m ex => by rw [execItem_gathered ex rfl, if_neg ha, if_neg hok], .ofFail (hP1.reset_self hs.inv)⟩
  | posLook p =>
    obtain ⟨x, hx, h1, h2, -⟩ := prim p s hs hfirst
    refine ⟨_, hx.map fun m e => execItem_posLook e, ?_⟩
    apply ite_ind <;> intro ha
    · exact .ofAbort ha h1 h2
    · apply ite_ind <;> intro _
      · exact ⟨nofun, h2.reset_self hs.inv, nofun⟩
      · exact .ofFail (h2.reset_self hs.inv)
  | negLook p =>
    obtain ⟨x, hx, h1, h2, -⟩ := prim p s hs hfirst
    refine ⟨_, hx.map fun m e => execItem_negLook e, ?_⟩
    apply ite_ind <;> intro ha
    · exact .ofAbort ha h1 h2
    · apply ite_ind <;> intro _
      · exact .ofFail (h2.reset_self hs.inv)
      · exact ⟨nofun, h2.reset_self hs.inv, nofun⟩
  | forced p what =>
    obtain ⟨x, hx, h1, h2, h3⟩ := prim p s hs hfirst
    refine ⟨_, hx.map fun m e => execItem_forced e, ?_⟩
    apply ite_ind <;> intro _
    · exact ⟨h1, h2, h3⟩
    · exact .ofAbort rfl nofun h2
  | setCut => exact .const (r := (.ok s.pos, s)) (fun m => by rw [execItem]) ⟨nofun, Post.refl hs.inv, nofun⟩
  | guardInvalid =>
    refine .const (fun m => by rw [execItem]) ?_
    apply ite_ind <;> intro _
    · exact ⟨nofun, Post.refl hs.inv, nofun⟩
    · exact .ofFail (Post.refl hs.inv)

theorem items_term (its : List AltItem) : ∀ (s : St) (cut : Bool) (oks : List Bool), Post W w s0 s →
    its.all (fun j => itemLoopOK W j.item) = true → (s.pos = s0.pos → itemsOK W rid its = true) →
    ∃ r, Runs (fun n => execItems prog w n its cut oks s) r ∧ res5 r ≠ .outOfFuel ∧ Post W w s (st5 r) ∧
      (r.1 = true → its.any (altItemNN W) = true → s.pos < (st5 r).pos) := by
  induction its with
  | nil =>
    intro s cut oks hs _ _
    exact ⟨(true, cut, .ok s.pos, s, oks), .const fun m => by rw [execItems], nofun, Post.refl hs.inv, fun _ h => nomatch h⟩
  | cons it its ih =>
    intro s cut oks hs hl hf
    rw [List.all_cons, Bool.and_eq_true] at hl
    -- after a conjunct that need not consume, the rest is still checked for the frame's own position
    have rest : altItemNN W it = false → (s.pos = s0.pos → itemsOK W rid its = true) ∧
        ((it :: its).any (altItemNN W) = true → its.any (altItemNN W) = true) := fun hnn =>
      ⟨fun h => by have := (itemsOK_cons (hf h)).2.2; rwa [hnn, if_neg Bool.false_ne_true] at this,
       fun hany => by rwa [List.any_cons, hnn, Bool.false_or] at hany⟩
    by_cases hsc : it.item = .setCut
    · obtain ⟨r, hr, h1, h2, h3⟩ := ih s true (true :: oks) hs hl.2 (rest (altItemNN_marker (.inl hsc))).1
      exact ⟨r, hr.map fun m e => by rw [execItems_cons rfl, if_pos hsc]; exact e, h1, h2,
        fun hok hany => h3 hok ((rest (altItemNN_marker (.inl hsc))).2 hany)⟩
    · by_cases hgi : it.item = .guardInvalid
      · by_cases hi : s.invalid = true
        · obtain ⟨r, hr, h1, h2, h3⟩ := ih s cut (true :: oks) hs hl.2 (rest (altItemNN_marker (.inr hgi))).1
          exact ⟨r, hr.map fun m e => by rw [execItems_cons rfl, if_neg hsc, if_pos hgi, if_pos hi]; exact e, h1, h2,
            fun hok hany => h3 hok ((rest (altItemNN_marker (.inr hgi))).2 hany)⟩
        · exact ⟨(false, cut, .fail s.pos, s, oks), .const fun m => by rw [execItems_cons rfl, if_neg hsc, if_pos hgi, if_neg hi],
            nofun, Post.refl hs.inv, fun h => nomatch h⟩
      · obtain ⟨x, hx, h1, hP1, hnn1⟩ := item_term HR it.item s hs hl.1 fun h => (itemsOK_cons (hf h)).2.1
        by_cases ha : x.1.isAbort = true
        · exact ⟨(false, cut, x.1, x.2, oks), hx.map fun m e => by rw [execItems_cons e, if_neg hsc, if_neg hgi, if_pos ha],
            h1, hP1, fun h => nomatch h⟩
        · by_cases hgo : (x.1.isOk || it.opt) = true
          · cases hnn : altItemNN W it with
            | true =>
              -- a conjunct that must consume has consumed: the rest no longer stands at `s0.pos`
              have hadv : s.pos < x.2.pos := by
                rw [altItemNN, Bool.and_eq_true, Bool.not_eq_true'] at hnn
                exact hnn1 hnn.2 (by rwa [hnn.1, Bool.or_false] at hgo)
              obtain ⟨y, hy, h2, hP2, -⟩ := ih x.2 cut (x.1.isOk :: oks) (hs.trans hP1) hl.2 fun hpm =>
                absurd (hpm ▸ hadv) (Nat.not_lt.mpr hs.pos)
              exact ⟨y, hx.map₂ hy fun m e e' => by rw [execItems_cons e, if_neg hsc, if_neg hgi, if_neg ha, if_pos hgo]; exact e', h2,
                hP1.trans hP2, fun _ _ => Nat.lt_of_lt_of_le hadv hP2.pos⟩
            | false =>
              obtain ⟨y, hy, h2, hP2, hc2⟩ := ih x.2 cut (x.1.isOk :: oks) (hs.trans hP1) hl.2 fun hpm =>
                (rest hnn).1 (Nat.le_antisymm (hpm ▸ hP1.pos) hs.pos)
              exact ⟨y, hx.map₂ hy fun m e e' => by rw [execItems_cons e, if_neg hsc, if_neg hgi, if_neg ha, if_pos hgo]; exact e', h2,
                hP1.trans hP2, fun hok hany => Nat.lt_of_le_of_lt hP1.pos (hc2 hok ((rest hnn).2 hany))⟩
          · exact ⟨(false, cut, x.1, x.2, oks), hx.map fun m e => by rw [execItems_cons e, if_neg hsc, if_neg hgi, if_neg ha, if_neg hgo],
              h1, hP1, fun h => nomatch h⟩

theorem alts_term (rid0 : Nat) (as : List Alt) : ∀ (idx : Nat) (s : St), Post W w s0 s → s.pos = s0.pos →
    as.all (fun a => itemsOK W rid a.items) = true →
    Term W w s (fun n => execAlts prog w n rid0 idx as s0.pos s) (as.all (fun a => a.items.any (altItemNN W))) := by
  induction as with
  | nil => intro idx s hs _ _; exact .const (fun m => by rw [execAlts]) (.ofFail (Post.refl hs.inv))
  | cons a as ih =>
    intro idx s hs hpos hok
    simp only [List.all_cons, Bool.and_eq_true] at hok ⊢
    obtain ⟨x, hx, h1, hP1, hc1⟩ := items_term HR a.items s false [] hs (itemsOK_loop a.items hok.1) (fun _ => hok.1)
    by_cases hab : x.2.2.1.isAbort = true
    · exact ⟨_, hx.map fun m e => by rw [execAlts_cons e, if_pos hab], .ofAbort hab h1 hP1⟩
    · by_cases hall : x.1 = true
      · exact ⟨_, hx.map fun m e => by rw [execAlts_cons e, if_neg hab, if_pos hall],
          actResult_fin (s0 := x.2.2.2.1.fire rid0 idx) _ _ _ (hP1.of_eq rfl rfl) fun hnn => hc1 hall (Bool.and_eq_true_iff.mp hnn).1⟩
      · have hPr : Post W w s (x.2.2.2.1.reset s0.pos) := hpos ▸ hP1.reset_self hs.inv
        by_cases hcut : x.2.1 = true
        · exact ⟨_, hx.map fun m e => by rw [execAlts_cons e, if_neg hab, if_neg hall, if_pos hcut], .ofFail hPr⟩
        · obtain ⟨y, hy, h2, hP2, hnn2⟩ := ih (idx + 1) (x.2.2.2.1.reset s0.pos) (hs.trans hPr) rfl hok.2
          exact ⟨y, hx.map₂ hy fun m e e' => by rw [execAlts_cons e, if_neg hab, if_neg hall, if_neg hcut]; exact e', h2, hPr.trans hP2,
            fun hnn hk => hpos ▸ hnn2 (Bool.and_eq_true_iff.mp hnn).2 hk⟩

theorem body_term (rid0 : Nat) (b : Body) (s : St) (hs : Post W w s0 s) (hpos : s.pos = s0.pos) (hok : bodyOK W rid b = true) :
    Term W w s (fun n => execBody prog w n rid0 b s) (bodyNN W b) := by
  cases b with
  | unmodelled => exact .const (r := (.undecided, s)) (fun m => by rw [execBody]) (.ofAbort rfl nofun (Post.refl hs.inv))
  | seqAlts ps =>
    exact (seqAlts_term HR ps s hs fun _ => hok).wrap fun m => by rw [execBody]
  | alts as wo ul =>
    cases hb : bodyEntry w wo ul s with
    | none => exact .const (r := (.tokErr, s)) (fun m => by rw [execBody, hb]) (.ofAbort rfl nofun (Post.refl hs.inv))
    | some sB =>
      obtain ⟨hbp, hbc⟩ := bodyEntry_same w wo ul s sB hb
      have hPB : Post W w s sB := (Post.refl hs.inv).of_eq hbc hbp
      obtain ⟨x, hx, h1, h2, h3⟩ := alts_term HR rid0 as 0 sB (hs.trans hPB) (hbp.trans hpos) hok
      exact ⟨_, hx.map fun m e => execBody_alts hb (by rw [hbp, hpos]; exact e), h1, (hPB.trans h2).of_eq (bodyExit_same ..).2 (bodyExit_same ..).1,
        fun hnn hk => Nat.lt_of_lt_of_eq (hbp ▸ h3 hnn hk) (bodyExit_same ..).1.symm⟩

theorem grow_term (id : Nat) (body : Body) (hok : bodyOK W rid body = true) (d : Nat) :
    ∀ (last : Option Nat) (lastmark : Nat) (s : St), w.size - lastmark = d → s0.pos ≤ lastmark → lastmark ≤ w.size → (last ≠ none → s0.pos < lastmark) →
      Inv W w s → DomLe s0 s → Term W w (s.reset s0.pos) (fun n => grow prog w n id body s0.pos last lastmark s) true := by
  induction d using Nat.strongRecOn with
  | _ d ih =>
    intro last lastmark s hd hm hle hl hinv hdom
    obtain ⟨x, hx, h1, hP1, -⟩ := body_term HR id body (s.reset s0.pos) ⟨hinv.reset s0.pos (Nat.le_trans hm hle), Nat.le_refl _, hdom⟩ rfl hok
    have hle2 := hP1.inv.pos_le
    by_cases hab : x.1.isAbort = true
    · exact ⟨x, hx.map fun m e => by rw [grow_succ e, if_pos hab], .ofAbort hab h1 hP1⟩
    · by_cases hgrow : x.1.isOk = true ∧ lastmark < x.2.pos
      · have hd3 : DomLe s (x.2.put s0.pos id (.ok x.2.pos)) := hP1.dom.trans (DomLe.put _ s0.pos id _)
        have hlt := Nat.lt_of_le_of_lt hm hgrow.2
        obtain ⟨y, hy, hfin⟩ := ih (w.size - x.2.pos) (left_lt hd hgrow.2 hle2) (some x.2.pos) x.2.pos (x.2.put s0.pos id (.ok x.2.pos)) rfl hP1.pos
          hle2 (fun _ => hlt) (hP1.inv.put s0.pos id _ ⟨hP1.pos, hle2, fun _ => hlt⟩) (hdom.trans hd3)
        exact ⟨y, hx.map₂ hy fun m e e' => by rw [grow_succ e, if_neg hab, if_pos hgrow]; exact e', hfin.from rfl hd3⟩
      · exact ⟨_, hx.map fun m e => by rw [grow_succ e, if_neg hab, if_neg hgrow], (finish_fin id s0.pos last lastmark x.2 hP1.inv hm hle hl).from rfl hP1.dom⟩

end frame

/-- one step of the lexicographic induction: if every smaller rule call terminates, so does this one -/
theorem rule_step (hwf : ∀ id r, prog[id]? = some r → ruleOK W id r = true) {id : Nat} {s : St} (hinv : Inv W w s)
    (H : CalleeOK prog W w (w.size - s.pos) (Ueff prog W s id) (W.rank id)) :
    Term W w s (fun n => execRule prog w n id s) (!W.nullable id) := by
  cases hr : prog[id]? with
  | none => exact .const (r := (.undecided, s)) (fun m => by rw [execRule_succ, hr]) (.ofAbort rfl nofun (Post.refl hinv))
  | some r =>
    have hro := hwf id r hr
    simp only [ruleOK, Bool.and_eq_true, beq_iff_eq, Bool.or_eq_true] at hro
    obtain ⟨⟨hlr, hnb⟩, hbok⟩ := hro
    have hnn : (!W.nullable id) = true → bodyNN W r.body = true := fun h => hnb.resolve_left (by simpa using h)
    have body : r.deco ≠ .leftrec → Term W w s (fun n => execBody prog w n id r.body s) (bodyNN W r.body) := fun hne =>
      have hl : W.lr id = false := by rw [hlr]; simpa using hne
      body_term (frameCalls hwf (Nat.le_refl _) (by simp [Ueff, hl]) (Nat.le_refl _) H) id r.body s (Post.refl hinv) rfl hbok
    have direct : r.deco ≠ .leftrec → (∀ m, execRule prog w (m + 1) id s = execBody prog w m id r.body s) →
        Term W w s (fun n => execRule prog w n id s) (!W.nullable id) := fun hne he => by
      obtain ⟨x, hx, h1, h2, h3⟩ := body hne
      exact ⟨x, hx.map fun m e => (he m).trans e, h1, h2, fun hn => h3 (hnn hn)⟩
    cases hd : r.deco with
    | none => exact direct (by simp [hd]) fun m => by rw [execRule_succ, hr]; simp only [hd]
    | logger => exact direct (by simp [hd]) fun m => by rw [execRule_succ, hr]; simp only [hd]
    | memo =>
      cases hc : cacheGet s.cache s.pos id with
      | some c => exact hit_term hinv hr (.inl hd) hc
      | none =>
        obtain ⟨x, hx, h1, h2, h3⟩ := body (by simp [hd])
        exact ⟨_, hx.map fun m e => by rw [execRule_succ, hr]; simp only [hd, hc, e],
          memoStore_fin (id := id) ⟨h1, h2, fun hn => h3 (hnn hn)⟩ (fun h => by simp [h])⟩
    | leftrec =>
      cases hc : cacheGet s.cache s.pos id with
      | some c => exact hit_term hinv hr (.inr hd) hc
      | none =>
        have hl : W.lr id = true := by rw [hlr, hd]; simp
        have hsz : s.pos < s.cache.size := by rw [hinv.size]; exact Nat.lt_succ_of_le hinv.pos_le
        have hlt := Ucount_put_lt (prog := prog) (W := W) (s := s) s.pos id (.fail s.pos) hsz (Array.getElem?_eq_some_iff.mp hr).1 hl hc
        have hu0 : Ucount prog W (s.put s.pos id (.fail s.pos)) s.pos ≤ Ueff prog W s id := by
          rw [Ueff, if_pos (by simp [hl, hc])]; exact Nat.le_sub_one_of_lt hlt
        obtain ⟨x, hx, hfin⟩ := grow_term (s0 := s.put s.pos id (.fail s.pos)) (frameCalls hwf (Nat.le_refl _) hu0 (Nat.le_refl _) H) id r.body hbok (w.size - s.pos) none s.pos
          (s.put s.pos id (.fail s.pos)) rfl (Nat.le_refl _) hinv.pos_le (fun h => absurd rfl h)
          (hinv.put s.pos id (.fail s.pos) ⟨Nat.le_refl _, hinv.pos_le⟩) (DomLe.refl _)
        have hfin : Fin W w s true x := hfin.from rfl ((DomLe.put s s.pos id _).trans (.of_cache_eq rfl))
        exact ⟨x, hx.map fun m e => by rw [execRule_succ, hr]; simp only [hd, hc]; exact e, hfin.1, hfin.2.1, fun _ => hfin.2.2 rfl⟩

/-- the lexicographic induction on (tokens left, leaders without a cache entry at the position, rank of the rule) -/
theorem rule_term_all (hwf : ∀ id r, prog[id]? = some r → ruleOK W id r = true) (id : Nat) (s : St) (hinv : Inv W w s) :
    Term W w s (fun n => execRule prog w n id s) (!W.nullable id) :=
  rule_step hwf hinv fun id' s' hinv' _ => rule_term_all hwf id' s' hinv'
termination_by (w.size - s.pos, Ueff prog W s id, W.rank id)
decreasing_by
  -- about variables: with the subtractions in sight `omega` splits on each of them
  have lex {a b c a' b' c' : Nat} : (a' < a ∨ a' ≤ a ∧ (b' < b ∨ b' ≤ b ∧ c' < c)) → a' < a ∨ a' = a ∧ (b' < b ∨ b' = b ∧ c' < c) := by omega
  simp only [Prod.lex_def]; exact lex ‹_›

theorem wfCert_spec (h : wfCert prog W = true) : ∀ id r, prog[id]? = some r → ruleOK W id r = true := fun id r hr => by
  rw [wfCert, List.walk_eq (aux := wfCertAux W) (fun _ => rfl) (fun _ _ _ => rfl), List.all_eq_true] at h
  exact h (r, id) (List.mem_zipIdx_iff_getElem?.mpr (by rw [Array.getElem?_toList]; exact hr))

theorem inv_fresh (s : St) (hp : s.pos ≤ w.size) (hc : s.cache = Array.replicate (w.size + 1) []) : Inv W w s :=
  ⟨hp, by rw [hc]; simp, by intro p id r h; rw [hc, cacheGet_replicate] at h; cases h⟩

theorem execRule_runs (hcert : wfCert prog W = true) (id : Nat) (s : St) (hinv : Inv W w s) :
    ∃ r, Runs (fun n => execRule prog w n id s) r ∧ r.1 ≠ .outOfFuel := by
  obtain ⟨r, hr, h, _⟩ := rule_term_all (wfCert_spec hcert) id s hinv
  exact ⟨r, hr, h⟩

theorem execRule_total (hcert : wfCert prog W = true) (id : Nat) (s : St) (hinv : Inv W w s) :
    ∃ n, (execRule prog w n id s).1 ≠ .outOfFuel := by
  obtain ⟨r, hr, h⟩ := execRule_runs hcert id s hinv
  obtain ⟨N, hN⟩ := hr.spec
  exact ⟨N, by rw [hN N (Nat.le_refl _)]; exact h⟩

/-- `parser_total` (Properties/C03) is this: a program that passes the well-formedness certificate never runs out of fuel in `Parser.parse`,
    for every token list, start rule and verbosity - neither in the first pass nor in the diagnostic pass. -/
theorem parse_total (hcert : wfCert prog W = true) (w : Array RTok) (start : Nat) (verbose : Bool) :
    ∃ fuel, (parse prog w fuel start verbose).1 ≠ .outOfFuel := by
  obtain ⟨x, hrx, hx⟩ := execRule_runs (W := W) (w := w) hcert start (St.init w.size false verbose) (inv_fresh _ (Nat.zero_le _) rfl)
  obtain ⟨y, hry, hy⟩ := execRule_runs (W := W) (w := w) hcert start (x.2.second w) (inv_fresh _ (Nat.zero_le _) rfl)
  obtain ⟨N1, h1⟩ := hrx.spec
  obtain ⟨N2, h2⟩ := hry.spec
  refine ⟨max N1 N2, fun h => ?_⟩
  rw [parse_eq (h1 _ (Nat.le_max_left ..)) (h2 _ (Nat.le_max_right ..))] at h
  split at h
  · exact hx (Outcome.of_eq_outOfFuel (far := none) h)
  · exact hy (Outcome.of_eq_outOfFuel (far := some _) h)

end XV.Peg
