/-
  C17 - COMPLETENESS of the recogniser model for the declarative PEG semantics, on the pure fragment (plain; every action
  truthy, or taken to be truthy by the model: `mayRaise`, an unresolved version gate; no rule peeks at the location of its
  first token): whenever the semantics derives an outcome for a rule at a position, a run from any good state at that
  position either runs out of fuel or answers exactly that outcome - the model never answers "raised" or "end of tokens"
  there (relative to that assumption about actions), and a memo hit is the same answer.  Induction on the derivation, carrying
  along that the run ends in a good state at the right position; a memo hit is the right answer by determinism (`SRule.det`).
-/
import XonshVerif.Proofs.PegSpecDet
namespace XV.Peg

/-- what an answer says, if it says anything: `some (some e)` match ending at `e`, `some none` failure, `none` out of fuel / raised -/
def Res.verdict : Res → Option (Option Nat)
  | .ok e => some (some e)
  | .fail _ => some none
  | _ => none

theorem verdict_some_some {res : Res} {e : Nat} (h : res.verdict = some (some e)) : res = .ok e := by
  cases res <;> simp [Res.verdict] at h; subst h; rfl
theorem verdict_some_none {res : Res} (h : res.verdict = some none) : ∃ m, res = .fail m := by
  cases res <;> simp [Res.verdict] at h; exact ⟨_, rfl⟩

theorem Snd.of_verdict {P : Option Nat → Prop} {res : Res} {a : Option Nat} (h : Snd P res) (hv : res.verdict = some a) : P a := by
  cases res <;> cases hv
  · exact h.1 _ rfl
  · exact h.2 _ rfl

/-- Actions after which the MODEL answers a match: `truthy`, and `mayRaise` / an unresolved `gate`, which `execAlts` takes to be
    truthy (recording `assumed := true`).  Whether those raise in Python is outside the model. -/
def actOk : ActKind → Bool
  | .truthy | .mayRaise | .gate _ => true
  | _ => false

def PureBody : Body → Prop
  | .alts as _ ul => ul = false ∧ ∀ a ∈ as, actOk a.act = true ∧ ∀ it ∈ a.items, itemPlain it.item = true
  | _ => True

/-- The fragment of the completeness theorem.  A rule that peeks for the location of its first token is left out because the peek
    answers "end of tokens" where the semantics may still have an outcome (an empty match at the end). -/
def Pure (prog : Prog) : Prop := ∀ (id : Nat) (r : Rule), prog[id]? = some r → r.deco ≠ .leftrec ∧ PureBody r.body

theorem PureBody.plain {b : Body} (h : PureBody b) : PlainBody b := by
  cases b with
  | alts as wo ul =>
    refine fun a ha => ⟨?_, (h.2 a ha).2⟩
    have := (h.2 a ha).1
    generalize a.act = k at this ⊢
    cases k <;> first | rfl | cases this
  | _ => trivial

theorem Pure.plain {prog : Prog} (h : Pure prog) : Plain prog := fun id r hr => ⟨(h id r hr).1, (h id r hr).2.plain⟩

def pureB (prog : Prog) : Bool :=
  prog.all (fun r => r.deco != .leftrec && (match r.body with
    | .alts as _ ul => !ul && as.all (fun a => actOk a.act && a.items.all (fun it => itemPlain it.item))
    | _ => true))

theorem pure_of_B (prog : Prog) (h : pureB prog = true) : Pure prog := fun id r hr => by
  have := all_rules h hr
  simp only [Bool.and_eq_true, bne_iff_ne, ne_eq] at this
  refine ⟨this.1, ?_⟩
  cases hb : r.body with
  | alts as wo ul =>
    rw [hb] at this
    simpa only [PureBody, Bool.and_eq_true, Bool.not_eq_true', List.all_eq_true] using this.2
  | _ => trivial

theorem plainB_of_pureB (prog : Prog) (h : pureB prog = true) : Plain prog := (pure_of_B prog h).plain

/-- no exceptional result is ever cached -/
def CNA (s : St) : Prop := ∀ p id r, cacheGet s.cache p id = some r → r.isAbort = false

theorem cna_of_eq {s s' : St} (h : s'.cache = s.cache) (hs : CNA s) : CNA s' := by
  unfold CNA at *; rw [h]; exact hs

theorem cna_put {s : St} (hs : CNA s) (p i : Nat) (r : Res) (hr : r.isAbort = false) : CNA (s.put p i r) := by
  intro p' i' r' hg
  rcases cacheGet_cachePut_some (c := s.cache) hg with ⟨-, -, rfl⟩ | h0
  · exact hr
  · exact hs p' i' r' h0

theorem cna_init (n : Nat) (a b : Bool) : CNA (St.init n a b) := fun p id r h => by
  rw [St.init, cacheGet_replicate] at h; cases h

section
variable {prog : Prog} {w : Array RTok}

structure Good (prog : Prog) (w : Array RTok) (s : St) : Prop where
  ok : CacheOK s
  snd : CSound prog w s
  na : CNA s

theorem Good.of_eq {s s' : St} (hg : Good prog w s) (h : s'.cache = s.cache) : Good prog w s' :=
  ⟨cacheOK_of_eq h hg.ok, cSound_of_eq h hg.snd, cna_of_eq h hg.na⟩

theorem Good.reset {s : St} (hg : Good prog w s) (p : Nat) : Good prog w (s.reset p) := hg.of_eq rfl

theorem Good.put {s : St} (hg : Good prog w s) {p i : Nat} {r : Res} (hna : r.isAbort = false) (hf : ∀ e, r = .fail e → e = p)
    (hs : Snd (SRule prog w i p) r) : Good prog w (s.put p i r) :=
  ⟨cacheOK_put hg.ok p i r hf, cSound_put hg.snd p i r hs, cna_put hg.na p i r hna⟩

/-- the conclusion: out of fuel, or THE outcome (and nothing exceptional cached) -/
def Cpl (r : Option Nat) (x : Res × St) : Prop := x.1 = .outOfFuel ∨ (x.1.verdict = some r ∧ CNA x.2)

theorem cpl_abort {r : Option Nat} {res : Res} {s : St} (h : res = .outOfFuel) : Cpl r (res, s) := Or.inl h

/-- How a call at `p` for which the semantics derives `r` ends: out of fuel, or with the answer that says `r`, in a good
    state that stands at the end of the match - at `p` again after a failure. -/
def Ends (prog : Prog) (w : Array RTok) (p : Nat) (r : Option Nat) (x : Res × St) : Prop :=
  x.1 = .outOfFuel ∨ (x.1.verdict = some r ∧ Good prog w x.2 ∧ x.2.pos = r.getD p)

theorem Ends.cpl {p : Nat} {r : Option Nat} {x : Res × St} (h : Ends prog w p r x) : Cpl r x := h.imp id fun h => ⟨h.1, h.2.1.na⟩
theorem Ends.oof {p : Nat} {r : Option Nat} {s : St} : Ends prog w p r (.outOfFuel, s) := .inl rfl
theorem Ends.ok {p e : Nat} {s : St} (hg : Good prog w s) (hp : s.pos = e) : Ends prog w p (some e) (.ok e, s) := .inr ⟨rfl, hg, hp⟩
theorem Ends.fail {p m : Nat} {s : St} (hg : Good prog w s) (hp : s.pos = p) : Ends prog w p none (.fail m, s) := .inr ⟨rfl, hg, hp⟩

/-- to go on after a call that `Ends` with a match: put what it returned in its place -/
@[elab_as_elim] theorem Ends.on_some {motive : Res × St → Prop} {p e : Nat} {x : Res × St} (h : Ends prog w p (some e) x)
    (oof : ∀ s, motive (.outOfFuel, s)) (ok : ∀ s, Good prog w s → s.pos = e → motive (.ok e, s)) : motive x := by
  obtain ⟨res, s⟩ := x
  rcases h with rfl | ⟨hv, hg, hp⟩
  · exact oof s
  · cases verdict_some_some hv; exact ok s hg hp

@[elab_as_elim] theorem Ends.on_none {motive : Res × St → Prop} {p : Nat} {x : Res × St} (h : Ends prog w p none x)
    (oof : ∀ s, motive (.outOfFuel, s)) (fail : ∀ m s, Good prog w s → s.pos = p → motive (.fail m, s)) : motive x := by
  obtain ⟨res, s⟩ := x
  rcases h with rfl | ⟨hv, hg, hp⟩
  · exact oof s
  · obtain ⟨m, rfl⟩ := verdict_some_none hv; exact fail m s hg hp

/-- the same for a sequence of items (`execItems` returns: all truthy?, the cut flag, the answer, the state, which calls
    succeeded), whose cut flag is `c'` at the end -/
def EndsItems (prog : Prog) (w : Array RTok) (r : Option Nat) (c' : Bool) (x : Bool × Bool × Res × St × List Bool) : Prop :=
  x.2.2.1 = .outOfFuel ∨ (Good prog w x.2.2.2.1 ∧ x.2.1 = c' ∧
    match r with
    | some e => x.1 = true ∧ x.2.2.1 = .ok e ∧ x.2.2.2.1.pos = e
    | none => x.1 = false ∧ ∃ m, x.2.2.1 = .fail m)

@[elab_as_elim] theorem EndsItems.on_some {motive : Bool × Bool × Res × St × List Bool → Prop} {e : Nat} {c' : Bool}
    {x : Bool × Bool × Res × St × List Bool} (h : EndsItems prog w (some e) c' x)
    (oof : ∀ ok c s oks, motive (ok, c, .outOfFuel, s, oks)) (ok : ∀ s oks, Good prog w s → s.pos = e → motive (true, c', .ok e, s, oks)) :
    motive x := by
  obtain ⟨ok', c, res, s, oks⟩ := x
  rcases h with rfl | ⟨hg, rfl, rfl, rfl, hp⟩
  · exact oof _ _ _ _
  · exact ok s oks hg hp

@[elab_as_elim] theorem EndsItems.on_none {motive : Bool × Bool × Res × St × List Bool → Prop} {c' : Bool}
    {x : Bool × Bool × Res × St × List Bool} (h : EndsItems prog w none c' x)
    (oof : ∀ ok c s oks, motive (ok, c, .outOfFuel, s, oks)) (fail : ∀ m s oks, Good prog w s → motive (false, c', .fail m, s, oks)) :
    motive x := by
  obtain ⟨ok', c, res, s, oks⟩ := x
  rcases h with rfl | ⟨hg, rfl, rfl, m, rfl⟩
  · exact oof _ _ _ _
  · exact fail m s oks hg

theorem EndsItems.cpl {r : Option Nat} {c' : Bool} {x : Bool × Bool × Res × St × List Bool} (h : EndsItems prog w r c' x) :
    x.2.2.1 = .outOfFuel ∨ (x.2.2.1.isAbort = false ∧ CNA x.2.2.2.1 ∧ x.2.1 = c' ∧
      (∀ e, r = some e → x.1 = true ∧ x.2.2.2.1.pos = e) ∧ (r = none → x.1 = false)) := by
  refine h.imp id fun ⟨g, hc, h⟩ => ?_
  cases r with
  | some e => exact ⟨by rw [h.2.1]; rfl, g.na, hc, fun _ he => by cases he; exact ⟨h.1, h.2.2⟩, nofun⟩
  | none => obtain ⟨h1, m, h2⟩ := h; exact ⟨by rw [h2]; rfl, g.na, hc, nofun, fun _ => h1⟩

/-- the same for a loop (which returns: count, answer, state) that ends at `e` with `cnt` elements counted -/
def EndsRep (prog : Prog) (w : Array RTok) (cnt e : Nat) (x : Nat × Res × St) : Prop :=
  x.2.1 = .outOfFuel ∨ (x.2.1 = .ok e ∧ x.1 = cnt ∧ x.2.2.pos = e ∧ Good prog w x.2.2)

@[elab_as_elim] theorem EndsRep.on {motive : Nat × Res × St → Prop} {cnt e : Nat} {x : Nat × Res × St} (h : EndsRep prog w cnt e x)
    (oof : ∀ n s, motive (n, .outOfFuel, s)) (ok : ∀ s, s.pos = e → Good prog w s → motive (cnt, .ok e, s)) : motive x := by
  obtain ⟨n, res, s⟩ := x
  rcases h with rfl | ⟨rfl, rfl, hp, hg⟩
  · exact oof n s
  · exact ok s hp hg

/-- a memo hit: the entry is derivable (the cache is sound), so by determinism it is the outcome `r` -/
theorem Ends.cacheHit {s : St} {id : Nat} {c : Res} {r : Option Nat} (hg : Good prog w s) (hc : cacheGet s.cache s.pos id = some c)
    (hd : SRule prog w id s.pos r) : Ends prog w s.pos r (cacheHit false s c) := by
  have hsd := hg.snd _ _ _ hc
  rcases isAbort_false_cases (hg.na _ _ _ hc) with ⟨e, rfl⟩ | ⟨m, rfl⟩
  · cases SRule.det (hsd.1 e rfl) hd; exact .ok (hg.reset e) rfl
  · cases SRule.det (hsd.2 m rfl) hd; exact .fail (hg.reset m) (hg.ok _ _ _ hc)

theorem Ends.memoStore {p id : Nat} {r : Option Nat} {x : Res × St} (h : Ends prog w p r x) (hd : SRule prog w id p r) :
    Ends prog w p r (memoStore p id x) := by
  cases r with
  | some e => exact h.on_some (fun _ => .oof) fun s1 hg1 hp1 => .ok (hg1.put rfl (by rintro _ ⟨⟩) (Snd.ofOk (hp1 ▸ hd))) hp1
  | none => exact h.on_none (fun _ => .oof) fun m s1 hg1 hp1 => .fail (hg1.put rfl (by rintro _ ⟨⟩; exact hp1) (Snd.ofFail hd)) hp1

/-- `invalid_` guards have no semantics -/
theorem SItem.ne_guard {it : Item} {p : Nat} {r : Option Nat} (h : SItem prog w it p r) : it ≠ .guardInvalid := by rintro rfl; cases h

/-- The strong form of completeness, by induction on the derivation: from a good state at `p`, the call for a judgement
    that the semantics derives ends (`Ends`) with that outcome.  Each case runs the premises in order: the induction
    hypothesis of a premise says what its call returns, which decides the interpreter's branch, and that the next call
    starts from a good state at the right place. -/
theorem cpl_holds (hp : Pure prog) : SHolds prog w
    (fun q p r => ∀ fuel s, s.pos = p → Good prog w s → Ends prog w p r (execPrim prog w fuel q s))
    (fun id p r => ∀ fuel s, s.pos = p → Good prog w s → Ends prog w p r (execRule prog w fuel id s))
    (fun b p r => PureBody b → ∀ fuel rid s, s.pos = p → Good prog w s → Ends prog w p r (execBody prog w fuel rid b s))
    (fun ps p r => ∀ fuel s, s.pos = p → Good prog w s → Ends prog w p r (execSeqAlts prog w fuel ps p s))
    (fun as p r => (∀ a ∈ as, actOk a.act = true) → ∀ fuel rid idx s, s.pos = p → Good prog w s →
      Ends prog w p r (execAlts prog w fuel rid idx as p s))
    (fun its p c r c' => ∀ fuel oks s, s.pos = p → Good prog w s → EndsItems prog w r c' (execItems prog w fuel its c oks s))
    (fun it p r => ∀ fuel s, s.pos = p → Good prog w s → Ends prog w p r (execItem prog w fuel it s))
    (fun q p k e => ∀ fuel n s, s.pos = p → Good prog w s → EndsRep prog w (n + k) e (execRepeat prog w fuel q p n s))
    (fun el sp p k e => ∀ fuel n s, s.pos = p → Good prog w s → EndsRep prog w (n + k) e (execSepRepeat prog w fuel el sp p n s)) := by
  apply SHolds.induct
  case prim_hit =>
    rintro q test p t hq hw ht (_ | fuel) s rfl hg
    · rw [execPrim]; exact .oof
    rw [execPrim_tok hq, hw]; simp only [ht]; exact .ok (hg.of_eq rfl) rfl
  case prim_miss =>
    rintro q test p t hq hw ht (_ | fuel) s rfl hg
    · rw [execPrim]; exact .oof
    rw [execPrim_tok hq, hw]; simp only [ht]; exact .fail (hg.of_eq rfl) rfl
  case prim_rule =>
    rintro id p r - ih (_ | fuel) s rfl hg <;> rw [execPrim]
    · exact .oof
    · exact ih fuel s rfl hg
  case rule_mk =>
    rintro id p r rule hr hb ih (_ | fuel) s rfl hg
    · rw [execRule]; exact .oof
    obtain ⟨hnl, hpb⟩ := hp id rule hr
    have ihb := ih hpb fuel id s rfl hg
    rw [execRule_succ, hr]
    simp only []
    cases hdeco : rule.deco with
    | none => exact ihb
    | logger => exact ihb
    | leftrec => exact absurd hdeco hnl
    | memo =>
      simp only []
      cases hcg : cacheGet s.cache s.pos id with
      | some c => exact .cacheHit hg hcg (.mk id _ r rule hr hb)
      | none => exact ihb.memoStore (.mk id _ r rule hr hb)
  case body_seqAlts =>
    rintro ps p r - ih - (_ | fuel) rid s rfl hg <;> rw [execBody]
    · exact .oof
    · exact ih fuel s rfl hg
  case body_alts =>
    rintro as wo ul p r - ih ⟨rfl, hpa⟩ (_ | fuel) rid s rfl hg
    · rw [execBody]; exact .oof
    rw [execBody_alts (sB := s.setInvalid (!wo && s.invalid)) (bodyEntry_eq wo false s) rfl, bodyExit_eq]
    exact (ih (fun a ha => (hpa a ha).1) fuel rid 0 (s.setInvalid (!wo && s.invalid)) rfl (hg.of_eq rfl)).imp id fun h => ⟨h.1, h.2.1.of_eq rfl, h.2.2⟩
  case seq_nil =>
    rintro p (_ | fuel) s rfl hg <;> rw [execSeqAlts]
    · exact .oof
    · exact .fail hg rfl
  case seq_hit =>
    rintro q qs p e - ih (_ | fuel) s rfl hg <;> rw [execSeqAlts]
    · exact .oof
    · exact (ih fuel s rfl hg).on_some (fun _ => .oof) fun _ hg1 hp1 => .ok hg1 hp1
  case seq_miss =>
    rintro q qs p r - - ih ihs (_ | fuel) s rfl hg <;> rw [execSeqAlts]
    · exact .oof
    · exact (ih fuel s rfl hg).on_none (fun _ => .oof) fun _ _ hg1 _ => ihs fuel _ rfl (hg1.reset _)
  case alts_nil =>
    rintro p - (_ | fuel) rid idx s rfl hg <;> rw [execAlts]
    · exact .oof
    · exact .fail hg rfl
  case alts_hit =>
    rintro a as p e c - ih hpa (_ | fuel) rid idx s rfl hg <;> rw [execAlts]
    · exact .oof
    have hact := hpa a (List.mem_cons_self ..)
    refine (ih fuel [] s rfl hg).on_some (fun _ _ _ _ => .oof) fun s0 oks hg0 hp0 => ?_
    subst hp0
    -- `by rfl` is elaborated last, when the state is known from the goal
    cases hk : a.act <;> rw [hk] at hact <;> cases hact <;> exact .ok (hg0.of_eq (by rfl)) rfl
  case alts_cut =>
    rintro a as p - ih - (_ | fuel) rid idx s rfl hg <;> rw [execAlts]
    · exact .oof
    · exact (ih fuel [] s rfl hg).on_none (fun _ _ _ _ => .oof) fun _ _ _ hg0 => .fail (hg0.reset _) rfl
  case alts_miss =>
    rintro a as p r - - ih ihs hpa (_ | fuel) rid idx s rfl hg <;> rw [execAlts]
    · exact .oof
    · exact (ih fuel [] s rfl hg).on_none (fun _ _ _ _ => .oof) fun _ _ _ hg0 =>
        ihs (fun a' h => hpa a' (List.mem_cons_of_mem _ h)) fuel rid (idx + 1) _ rfl (hg0.reset _)
  case items_nil =>
    rintro p c (_ | fuel) oks s rfl hg <;> rw [execItems]
    · exact .inl rfl
    · exact .inr ⟨hg, rfl, rfl, rfl, rfl⟩
  case items_setCut =>
    rintro o its p c r c' - ih (_ | fuel) oks s rfl hg <;> rw [execItems]
    · exact .inl rfl
    · exact ih fuel _ s rfl hg
  case items_ok =>
    rintro it its p q c r c' hne hi - ih ihs (_ | fuel) oks s rfl hg
    · rw [execItems]; exact .inl rfl
    rw [execItems_cons rfl, if_neg hne, if_neg hi.ne_guard]
    exact (ih fuel s rfl hg).on_some (fun _ => .inl rfl) fun s1 hg1 hp1 => ihs fuel _ s1 hp1 hg1
  case items_skip =>
    rintro it its p c r c' hne hopt hi - ih ihs (_ | fuel) oks s rfl hg
    · rw [execItems]; exact .inl rfl
    rw [execItems_cons rfl, if_neg hne, if_neg hi.ne_guard, hopt]
    exact (ih fuel s rfl hg).on_none (fun _ => .inl rfl) fun _ s1 hg1 hp1 => ihs fuel _ s1 hp1 hg1
  case items_fail =>
    rintro it its p c hne hopt hi ih (_ | fuel) oks s rfl hg
    · rw [execItems]; exact .inl rfl
    rw [execItems_cons rfl, if_neg hne, if_neg hi.ne_guard, hopt]
    exact (ih fuel s rfl hg).on_none (fun _ => .inl rfl) fun m _ hg1 _ => .inr ⟨hg1, rfl, rfl, m, rfl⟩
  case item_call =>
    rintro q p r - ih (_ | fuel) s rfl hg <;> rw [execItem]
    · exact .oof
    · exact ih fuel s rfl hg
  case item_seqAlts =>
    rintro ps p r - ih (_ | fuel) s rfl hg <;> rw [execItem]
    · exact .oof
    · exact ih fuel s rfl hg
  case item_plusOk =>
    rintro q p k e - ih (_ | fuel) s rfl hg <;> rw [execItem]
    · exact .oof
    · exact (ih fuel 0 s rfl hg).on (fun _ _ => .oof) fun s1 hp1 hg1 => by subst hp1; exact .ok hg1 rfl
  case item_plusFail =>
    rintro q p - ih (_ | fuel) s rfl hg <;> rw [execItem]
    · exact .oof
    · exact (ih fuel 0 s rfl hg).on (fun _ _ => .oof) fun s1 hp1 hg1 => .fail hg1 hp1
  case item_gatherOk =>
    rintro el sp p q k e - - ih ihs (_ | fuel) s rfl hg <;> rw [execItem]
    · exact .oof
    refine (ih fuel s rfl hg).on_some (fun _ => .oof) fun s1 hg1 hp1 => ?_
    subst hp1
    simp only [isAbort_ok, Bool.false_eq_true, if_false]
    exact (ihs fuel 0 s1 rfl hg1).on (fun _ _ => .oof) fun s2 hp2 hg2 => by subst hp2; exact .ok hg2 rfl
  case item_gatherFail =>
    rintro el sp p - ih (_ | fuel) s rfl hg <;> rw [execItem]
    · exact .oof
    · exact (ih fuel s rfl hg).on_none (fun _ => .oof) fun _ _ hg1 _ => .fail (hg1.reset _) rfl
  case item_posOk =>
    rintro q p e - ih (_ | fuel) s rfl hg <;> rw [execItem]
    · exact .oof
    · exact (ih fuel s rfl hg).on_some (fun _ => .oof) fun _ hg1 _ => .ok (hg1.reset _) rfl
  case item_posFail =>
    rintro q p - ih (_ | fuel) s rfl hg <;> rw [execItem]
    · exact .oof
    · exact (ih fuel s rfl hg).on_none (fun _ => .oof) fun _ _ hg1 _ => .fail (hg1.reset _) rfl
  case item_negOk =>
    rintro q p - ih (_ | fuel) s rfl hg <;> rw [execItem]
    · exact .oof
    · exact (ih fuel s rfl hg).on_none (fun _ => .oof) fun _ _ hg1 _ => .ok (hg1.reset _) rfl
  case item_negFail =>
    rintro q p e - ih (_ | fuel) s rfl hg <;> rw [execItem]
    · exact .oof
    · exact (ih fuel s rfl hg).on_some (fun _ => .oof) fun _ hg1 _ => .fail (hg1.reset _) rfl
  case item_forced =>
    rintro q what p e - ih (_ | fuel) s rfl hg <;> rw [execItem]
    · exact .oof
    · exact (ih fuel s rfl hg).on_some (fun _ => .oof) fun _ hg1 hp1 => .ok hg1 hp1
  case star_stop =>
    rintro q p - ih (_ | fuel) n s rfl hg <;> rw [execRepeat]
    · exact .inl rfl
    · exact (ih fuel s rfl hg).on_none (fun _ => .inl rfl) fun _ _ hg1 _ => .inr ⟨rfl, rfl, rfl, hg1.reset _⟩
  case star_step =>
    rintro q p e k e' - - ih ihs (_ | fuel) n s rfl hg <;> rw [execRepeat]
    · exact .inl rfl
    refine (ih fuel s rfl hg).on_some (fun _ => .inl rfl) fun s1 hg1 hp1 => ?_
    subst hp1
    simp only [isAbort_ok, Bool.false_eq_true, if_false]
    exact Nat.add_right_comm n 1 k ▸ ihs fuel (n + 1) s1 rfl hg1
  case sep_stopSep =>
    rintro el sp p - ih (_ | fuel) n s rfl hg <;> rw [execSepRepeat]
    · exact .inl rfl
    · exact (ih fuel s rfl hg).on_none (fun _ => .inl rfl) fun _ _ hg1 _ => .inr ⟨rfl, rfl, rfl, hg1.reset _⟩
  case sep_stopElem =>
    rintro el sp p q - - ih ihs (_ | fuel) n s rfl hg <;> rw [execSepRepeat]
    · exact .inl rfl
    refine (ih fuel s rfl hg).on_some (fun _ => .inl rfl) fun s1 hg1 hp1 => ?_
    subst hp1
    simp only [isAbort_ok, Bool.false_eq_true, if_false]
    exact (ihs fuel s1 rfl hg1).on_none (fun _ => .inl rfl) fun _ _ hg2 _ => .inr ⟨rfl, rfl, rfl, hg2.reset _⟩
  case sep_step =>
    rintro el sp p q r k e - - - ih ihs ihss (_ | fuel) n s rfl hg <;> rw [execSepRepeat]
    · exact .inl rfl
    refine (ih fuel s rfl hg).on_some (fun _ => .inl rfl) fun s1 hg1 hp1 => ?_
    subst hp1
    simp only [isAbort_ok, Bool.false_eq_true, if_false]
    refine (ihs fuel s1 rfl hg1).on_some (fun _ => .inl rfl) fun s2 hg2 hp2 => ?_
    subst hp2
    exact Nat.add_right_comm n 1 k ▸ ihss fuel (n + 1) s2 rfl hg2

theorem SPrim.cpl (hp : Pure prog) {q : Prim} {p : Nat} {r : Option Nat} (h : SPrim prog w q p r) (fuel : Nat) (s : St)
    (hpos : s.pos = p) (hg : Good prog w s) : Cpl r (execPrim prog w fuel q s) :=
  ((cpl_holds hp).prim h fuel s hpos hg).cpl
theorem SRule.cpl (hp : Pure prog) {id : Nat} {p : Nat} {r : Option Nat} (h : SRule prog w id p r) (fuel : Nat) (s : St)
    (hpos : s.pos = p) (hg : Good prog w s) : Cpl r (execRule prog w fuel id s) :=
  ((cpl_holds hp).rule h fuel s hpos hg).cpl
theorem SBody.cpl (hp : Pure prog) {b : Body} (hpb : PureBody b) {p : Nat} {r : Option Nat} (h : SBody prog w b p r) (fuel rid : Nat) (s : St)
    (hpos : s.pos = p) (hg : Good prog w s) : Cpl r (execBody prog w fuel rid b s) :=
  ((cpl_holds hp).body h hpb fuel rid s hpos hg).cpl
theorem SSeq.cpl (hp : Pure prog) {ps : List Prim} {p : Nat} {r : Option Nat} (h : SSeq prog w ps p r) (fuel : Nat) (s : St)
    (hpos : s.pos = p) (hg : Good prog w s) : Cpl r (execSeqAlts prog w fuel ps p s) :=
  ((cpl_holds hp).seq h fuel s hpos hg).cpl
theorem SAlts.cpl (hp : Pure prog) {as : List Alt} {p : Nat} {r : Option Nat} (h : SAlts prog w as p r)
    (hpa : ∀ a ∈ as, actOk a.act = true ∧ ∀ it ∈ a.items, itemPlain it.item = true) (fuel rid idx : Nat) (s : St)
    (hpos : s.pos = p) (hg : Good prog w s) : Cpl r (execAlts prog w fuel rid idx as p s) :=
  ((cpl_holds hp).alts h (fun a ha => (hpa a ha).1) fuel rid idx s hpos hg).cpl
-- `hpi` is not needed: an item that is not plain has no derivation (`SItem.ne_guard`)
set_option linter.unusedVariables false in
theorem SItems.cpl (hp : Pure prog) {its : List AltItem} {p : Nat} {c : Bool} {r : Option Nat} {c' : Bool} (h : SItems prog w its p c r c')
    (hpi : ∀ it ∈ its, itemPlain it.item = true) (fuel : Nat) (oks : List Bool) (s : St)
    (hpos : s.pos = p) (hg : Good prog w s) :
    (execItems prog w fuel its c oks s).2.2.1 = .outOfFuel ∨
      ((execItems prog w fuel its c oks s).2.2.1.isAbort = false ∧ CNA (execItems prog w fuel its c oks s).2.2.2.1 ∧
       (execItems prog w fuel its c oks s).2.1 = c' ∧
       (∀ e, r = some e → (execItems prog w fuel its c oks s).1 = true ∧ (execItems prog w fuel its c oks s).2.2.2.1.pos = e) ∧
       (r = none → (execItems prog w fuel its c oks s).1 = false)) :=
  ((cpl_holds hp).items h fuel oks s hpos hg).cpl
theorem SItem.cpl (hp : Pure prog) {it : Item} {p : Nat} {r : Option Nat} (h : SItem prog w it p r) (fuel : Nat) (s : St)
    (hpos : s.pos = p) (hg : Good prog w s) : Cpl r (execItem prog w fuel it s) :=
  ((cpl_holds hp).item h fuel s hpos hg).cpl
theorem SStar.cpl (hp : Pure prog) {q : Prim} {p k e : Nat} (h : SStar prog w q p k e) (fuel n : Nat) (s : St)
    (hpos : s.pos = p) (hg : Good prog w s) :
    (execRepeat prog w fuel q p n s).2.1 = .outOfFuel ∨
      ((execRepeat prog w fuel q p n s).2.1.isAbort = false ∧ (execRepeat prog w fuel q p n s).1 = n + k ∧
       (execRepeat prog w fuel q p n s).2.2.pos = e ∧ CNA (execRepeat prog w fuel q p n s).2.2) :=
  ((cpl_holds hp).star h fuel n s hpos hg).imp id fun ⟨a, b, c, g⟩ => ⟨by rw [a]; rfl, b, c, g.na⟩
theorem SSep.cpl (hp : Pure prog) {el sp : Prim} {p k e : Nat} (h : SSep prog w el sp p k e) (fuel n : Nat) (s : St)
    (hpos : s.pos = p) (hg : Good prog w s) :
    (execSepRepeat prog w fuel el sp p n s).2.1 = .outOfFuel ∨
      ((execSepRepeat prog w fuel el sp p n s).2.1.isAbort = false ∧
       (execSepRepeat prog w fuel el sp p n s).2.2.pos = e ∧ CNA (execSepRepeat prog w fuel el sp p n s).2.2) :=
  ((cpl_holds hp).sep h fuel n s hpos hg).imp id fun ⟨a, _, c, g⟩ => ⟨by rw [a]; rfl, c, g.na⟩
end

end XV.Peg
