/-
  C08 - tokens appear in non-decreasing, non-overlapping position order.

  An overlay on the tokenizer model: the chain of tokens emitted so far ends at a high-water mark `hw` which is never
  beyond the scan position, and a literal-accumulating prog on top of the mode stack (plain string, f-string literal part,
  format spec) starts at or after `hw` and at or before the scan position.  By the shape of the stack (Proofs/TokStack)
  whatever a pop reveals is a `{`-prog (which emits nothing) and whatever is restarted by `pop_mode(end)` starts at the
  scan position.
-/
import XonshVerif.Proofs.TokStack
namespace XV.Tz
open XV XV.Rx

variable {E : Env} {P : Pats}

theorem Pos.le_def (a b : Pos) : a ≤ b ↔ a.line < b.line ∨ (a.line = b.line ∧ a.col ≤ b.col) := Iff.rfl
theorem Pos.le_refl' (a : Pos) : a ≤ a := by rw [Pos.le_def]; omega
theorem Pos.le_trans' {a b c : Pos} (h1 : a ≤ b) (h2 : b ≤ c) : a ≤ c := by rw [Pos.le_def] at *; omega
theorem Pos.le_same (l a b : Nat) (h : a ≤ b) : (⟨l, a⟩ : Pos) ≤ ⟨l, b⟩ := by rw [Pos.le_def]; simp; omega
theorem Pos.le_next (l a b : Nat) : (⟨l, a⟩ : Pos) ≤ ⟨l + 1, b⟩ := by rw [Pos.le_def]; simp

/-- `ts` is a chain: it starts at or after `lo`, every token ends at or after its start, the next one starts at or after
    that end, and the last one ends at or before `hi` -/
def Chain (lo : Pos) : List Tok5 → Pos → Prop
  | [], hi => lo ≤ hi
  | t :: ts, hi => lo ≤ t.start ∧ t.start ≤ t.stop ∧ Chain t.stop ts hi

theorem Chain.le {lo hi : Pos} {ts : List Tok5} (h : Chain lo ts hi) : lo ≤ hi := by
  induction ts generalizing lo with
  | nil => exact h
  | cons t ts ih => exact Pos.le_trans' h.1 (Pos.le_trans' h.2.1 (ih h.2.2))

theorem Chain.append {a b c : Pos} {xs ys : List Tok5} (h1 : Chain a xs b) (h2 : Chain b ys c) : Chain a (xs ++ ys) c := by
  induction xs generalizing a with
  | nil =>
    cases ys with
    | nil => exact Pos.le_trans' h1 h2
    | cons y ys => exact ⟨Pos.le_trans' h1 h2.1, h2.2.1, h2.2.2⟩
  | cons x xs ih => exact ⟨h1.1, h1.2.1, ih h1.2.2⟩

theorem Chain.lo_le {a a' b : Pos} {xs : List Tok5} (h : Chain a xs b) (ha : a' ≤ a) : Chain a' xs b := by
  cases xs with
  | nil => exact Pos.le_trans' ha h
  | cons x xs => exact ⟨Pos.le_trans' ha h.1, h.2.1, h.2.2⟩

theorem Chain.hi_le {a b b' : Pos} {xs : List Tok5} (h : Chain a xs b) (hb : b ≤ b') : Chain a xs b' := by
  simpa using h.append (show Chain b [] b' from hb)

theorem Chain.single (lo : Pos) (t : Tok5) (h1 : lo ≤ t.start) (h2 : t.start ≤ t.stop) : Chain lo [t] t.stop :=
  ⟨h1, h2, Pos.le_refl' _⟩

theorem Chain.nil (a : Pos) : Chain a [] a := Pos.le_refl' a

theorem Chain.one (lo : Pos) (t : Tok5) (hi : Pos) (h1 : lo ≤ t.start) (h2 : t.start ≤ t.stop) (h3 : t.stop ≤ hi) : Chain lo [t] hi :=
  ⟨h1, h2, h3⟩

theorem Chain.pairwise {lo hi : Pos} {ts : List Tok5} (h : Chain lo ts hi) :
    ts.Pairwise (fun a b => a.stop ≤ b.start) ∧ (∀ t ∈ ts, lo ≤ t.start ∧ t.start ≤ t.stop ∧ t.stop ≤ hi) := by
  induction ts generalizing lo with
  | nil => exact ⟨List.Pairwise.nil, by intro t ht; cases ht⟩
  | cons t ts ih =>
    obtain ⟨hp, hall⟩ := ih h.2.2
    refine ⟨List.Pairwise.cons ?_ hp, ?_⟩
    · intro b hb; exact (hall b hb).1
    · intro u hu
      rcases List.mem_cons.mp hu with rfl | hu
      · exact ⟨h.1, h.2.1, Chain.le h.2.2⟩
      · obtain ⟨a, b, c⟩ := hall u hu
        exact ⟨Pos.le_trans' h.1 (Pos.le_trans' h.2.1 a), b, c⟩

/-- the invariant, said of the stack and a position `c`: the scan position (`OInv`), or the end of the line between two lines -/
structure OI (hw : Pos) (progs : List EndProg) (c : Pos) : Prop where
  shape : Shape progs
  hw_cur : hw ≤ c
  top : ∀ p rest, progs = p :: rest → isB p = true ∨ (hw ≤ p.start ∧ p.start ≤ c)

def OInv (hw : Pos) (st : TState) : Prop := OI hw st.endProgs (cur st)

theorem cur_le_col (st : TState) (e : Nat) (h : st.pos ≤ e) : cur st ≤ ⟨st.lnum, e⟩ := Pos.le_same _ _ _ h

theorem OInv.same {hw : Pos} {st s : TState} (hsh : Shape st.endProgs) (hB : TopB st) (h1 : s.endProgs = st.endProgs)
    (hc : hw ≤ cur s) : OInv hw s := by
  refine ⟨by rw [h1]; exact hsh, hc, ?_⟩
  intro p rest hp; rw [h1] at hp; exact Or.inl (hB p rest hp)

/-- right after a token that ends at the scan position `c`, when every prog on top that accumulates text starts at `c` -/
theorem OInv.at_cur {s : TState} {c : Pos} (hv : Shape s.endProgs) (hc : cur s = c)
    (htop : ∀ q more, s.endProgs = q :: more → isB q = false → q.start = c) : OInv c s :=
  ⟨hv, hc ▸ Pos.le_refl' _, fun q more hq => (Bool.eq_false_or_eq_true (isB q)).imp_right fun hb => by
    rw [htop q more hq hb, hc]; exact ⟨Pos.le_refl' _, Pos.le_refl' _⟩⟩

theorem OI.mono {hw c c' : Pos} {progs : List EndProg} (h : OI hw progs c) (hc : c ≤ c') : OI hw progs c' := by
  refine ⟨h.shape, Pos.le_trans' h.hw_cur hc, ?_⟩
  intro p rest hp
  rcases h.top p rest hp with hb | ⟨a, b⟩
  · exact Or.inl hb
  · exact Or.inr ⟨a, Pos.le_trans' b hc⟩

theorem OI.empty {hw c : Pos} (h : hw ≤ c) : OI hw [] c :=
  ⟨trivial, h, by intro p rest hp; cases hp⟩

theorem EmitMid.ord {st s : TState} {me : Nat} {p : EndProg} {rest : List EndProg} {mid : List Tok5} {hw : Pos}
    (h1 : hw ≤ p.start) (h2 : p.start ≤ cur st) (hme : st.pos ≤ me) (h : EmitMid st me p rest mid s) :
    s.lnum = st.lnum ∧ st.pos ≤ s.pos ∧ s.pos ≤ me ∧ Chain hw mid (cur s) := by
  cases h with
  | skip => exact ⟨rfl, Nat.le_refl _, hme, Pos.le_trans' h1 h2⟩
  | emit =>
    refine ⟨rfl, hme, Nat.le_refl _, h1, ?_, Pos.le_refl' _⟩
    simp only [cur, Pos.le_def] at h2 ⊢
    omega

theorem FstrHit.ord {st s : TState} {p : EndProg} {rest : List EndProg} {ts : List Tok5}
    (hF : FstrLen P) {hw : Pos} (hst : st.endProgs = p :: rest) (hI : OInv hw st) (h : FstrHit E P st p rest ts s) :
    ∃ hw', Chain hw ts hw' ∧ OInv hw' s := by
  have hsh : Shape (p :: rest) := hst ▸ hI.shape
  obtain ⟨hv', hnb, htop⟩ := h.shape hst hI.shape
  rcases hI.top p rest hst with hb | ⟨ht1, ht2⟩
  · rw [hnb] at hb; cases hb
  obtain ⟨w, r, e, mid, s1, ty, hd, hr, hem, rfl, hln, hpos⟩ := h.delim hsh.ok
  -- the pattern consumed at least the delimiter, so the literal part before it ends at or after the scan position
  have hlen := hr.minLen_le
  have hwl := hF.delim hd
  obtain ⟨hln1, _, hle', hch⟩ := hem.ord ht1 ht2 (by omega)
  have hc : cur s = ⟨st.lnum, e⟩ := by simp only [cur, hln, hln1, hpos]
  exact ⟨_, hch.append (.one _ _ _ (Pos.le_refl' _) (Pos.le_same _ _ _ (by omega)) (hln1 ▸ Pos.le_refl' _)),
    .at_cur hv' hc (hc ▸ top_restarted htop).start⟩

theorem EndStep.ord {st st' : TState} {ts : List Tok5} (hF : FstrLen P) {hw : Pos}
    (hle : st.pos ≤ st.max) (hI : OInv hw st) (h : EndStep E P st ts st') :
    ∃ hw', Chain hw ts hw' ∧ OInv hw' st' := by
  cases h with
  | idle => exact ⟨hw, .nil _, hI⟩
  | fstring hst _ hit => exact hit.ord hF hst hI
  | @string p rest g e hst hN hm =>
    have hge := matchBranches_ge hm
    have hsh : Shape (p :: rest) := hst ▸ hI.shape
    rcases hI.top p rest hst with hb | ⟨ht1, ht2⟩
    · rw [isN_notB hN] at hb; cases hb
    have hB : ∀ q more, rest = q :: more → isB q = true := fun q more hq => (hq ▸ hsh).below_notB (isN_notB hN)
    exact ⟨⟨st.lnum, e⟩, .one _ _ _ ht1 (Pos.le_trans' ht2 (cur_le_col st e hge)) (Pos.le_refl' _),
      hsh.tail, Pos.le_refl' _, fun q more hq => .inl (hB q more hq)⟩
  | @join p rest hst =>
    refine ⟨hw, .nil _, Shape.retop (p := p) rfl rfl rfl (hst ▸ hI.shape), ?_, ?_⟩
    · exact Pos.le_trans' hI.hw_cur (cur_le_col st st.max hle)
    · intro q more hq
      cases hq
      exact (hI.top p rest hst).imp_right fun ⟨a, b⟩ => ⟨a, Pos.le_trans' b (cur_le_col st st.max hle)⟩

theorem SpecialStep.ord {st st' : TState} {start e : Nat} (hsh : Shape st.endProgs) (hB : TopB st) (hpos : st.pos = e)
    (hsz : e ≤ st.line.size) (h : SpecialStep st start e st') : OInv ⟨st.lnum, e⟩ st' :=
  .at_cur (h.shape hsh) (by simp only [cur, h.adv.1.lnum, h.adv.2, hpos]) (h.restart hsh hB hsz).start

theorem PseudoStep.ord {st st' : TState} {g : String} {start e : Nat} {tok : Option Tok5} {hw : Pos}
    (hI : OI hw st.endProgs ⟨st.lnum, start⟩) (hB : TopB st) (hse : start ≤ e) (hpos : st.pos = e) (hsz : e ≤ st.line.size)
    (h : PseudoStep st g start e tok st') : ∃ hw', Chain hw tok.toList hw' ∧ OInv hw' st' := by
  have hv' := h.shape hI.shape hB
  have hcur : cur st = ⟨st.lnum, e⟩ := by simp only [cur, hpos]
  have hch : ∀ ty, Chain hw [mkTok st start e ty] ⟨st.lnum, e⟩ := fun ty =>
    .one _ _ _ hI.hw_cur (Pos.le_same _ _ _ hse) (Pos.le_refl' _)
  have hws : hw ≤ ⟨st.lnum, e⟩ := Pos.le_trans' hI.hw_cur (Pos.le_same _ _ _ hse)
  cases h with
  | fstring => exact ⟨_, hch _, .at_cur hv' hcur fun q more hq _ => by cases hq; rfl⟩
  | string => exact ⟨hw, .nil _, hv', hcur ▸ hws, fun q more hq => by cases hq; exact .inr ⟨hI.hw_cur, hcur ▸ Pos.le_same _ _ _ hse⟩⟩
  | plain => exact ⟨_, hch _, OInv.same hI.shape hB rfl (hcur ▸ Pos.le_refl' _)⟩
  | op => exact ⟨_, hch _, (specialAction_step st start e).ord hI.shape hB hpos hsz⟩
  | continuation => exact ⟨hw, .nil _, OInv.same hI.shape hB rfl (hcur ▸ hws)⟩

theorem PseudoMatch.ord {st st' : TState} {tok : Option Tok5} {hw : Pos}
    (hi : InLine st) (hI : OInv hw st) (hpre : PseudoPre st) (h : PseudoMatch E P st tok st') :
    ∃ hw', Chain hw tok.toList hw' ∧ OInv hw' st' := by
  cases h with
  | idle => exact ⟨hw, .nil _, hI⟩
  | @hit g e _ _ hnmax hnM hm hs =>
    obtain ⟨hge, hbd⟩ := hit_bounds hi hm
    exact hs.ord (st := { st with pos := e }) (hw := hw) ⟨hI.shape, hI.hw_cur, hI.top⟩ (hpre.topB hnmax hnM) hge rfl (hi.max ▸ hbd)

theorem ScanIter.ord {st st' : TState} {ts : List Tok5} (hP : PseudoProgress P) (hF : FstrLen P) {hw : Pos}
    (hi : InLine st) (hI : OInv hw st) (h : ScanIter E P st ts st') :
    ∃ hw', Chain hw ts hw' ∧ OInv hw' st' := by
  have turn : ∀ {ts1 st1 tok st2}, EndStep E P st ts1 st1 → PseudoMatch E P st1 tok st2 →
      ∃ hw1 hw2, Chain hw ts1 hw1 ∧ Chain hw1 tok.toList hw2 ∧ OInv hw2 st2 := by
    intro ts1 st1 tok st2 he hp
    obtain ⟨hw1, c1, i1⟩ := he.ord hF hi.pos hI
    obtain ⟨hw2, c2, i2⟩ := hp.ord (he.adv hi).2 i1 (he.pre hI.shape)
    exact ⟨hw1, hw2, c1, c2, i2⟩
  cases h with
  | turn _ he hp => obtain ⟨_, hw2, c1, c2, i2⟩ := turn he hp; exact ⟨hw2, c1.append c2, i2⟩
  | @err ts1 st1 st2 hlt he hp heq =>
    obtain ⟨_, hw2, c1, c2, i2⟩ := turn he hp
    have hB2 := scan_stuck_topB hP hF hi hI.shape he hp heq hlt
    exact ⟨⟨st2.lnum, st2.pos + 1⟩, (c1.hi_le c2).append (.one _ _ _ i2.hw_cur (Pos.le_same _ _ _ (Nat.le_succ _)) (Pos.le_refl' _)),
      OInv.same i2.shape hB2 rfl (Pos.le_refl' _)⟩

/-- by induction on the run and not through `Scan.fold`: the high-water mark changes from turn to turn (the fold's invariant
    would have to hide it, and to carry the line bounds along) -/
theorem Scan.ord {st st' : TState} {ts : List Tok5} (hP : PseudoProgress P) (hF : FstrLen P) {hw : Pos}
    (hi : InLine st) (hI : OInv hw st) (h : Scan E P st ts st') :
    ∃ hw', Chain hw ts hw' ∧ OInv hw' st' := by
  induction h generalizing hw with
  | done => exact ⟨hw, .nil _, hI⟩
  | step h1 _ ih =>
    obtain ⟨hw1, c1, i1⟩ := h1.ord hP hF hi hI
    obtain ⟨hw2, c2, i2⟩ := ih (h1.adv hi).2 i1
    exact ⟨hw2, c1.append c2, i2⟩

theorem chain_replicate (p : Pos) (t : Tok5) (h1 : t.start = p) (h2 : t.stop = p) : ∀ k, Chain p (List.replicate k t) p
  | 0 => Pos.le_refl' _
  | k + 1 => ⟨h1 ▸ Pos.le_refl' _, h1 ▸ h2 ▸ Pos.le_refl' _, h2 ▸ chain_replicate p t h1 h2 k⟩

theorem StmtStep.ord {st s : TState} {col pos : Nat} {ts : List Tok5} {a : StmtAction} {hw : Pos}
    (hmax : st.max = st.line.size) (hhw : hw ≤ ⟨st.lnum, 0⟩) (h : StmtStep st col pos ts s a) :
    ∃ hw', Chain hw ts hw' ∧ (a = .proceed → hw' ≤ cur s) ∧ (a = .continueLoop → hw' ≤ ⟨st.lnum, st.max⟩) := by
  have hsz : st.line.toList.length = st.max := by rw [hmax]; simp
  have h0 : ∀ c, hw ≤ ⟨st.lnum, c⟩ := fun c => Pos.le_trans' hhw (Pos.le_same _ _ _ (Nat.zero_le _))
  cases h with
  | eof | blankEnd => exact ⟨hw, .nil _, nofun, nofun⟩
  | comment hlt =>
    have hl := rstripNewlines_len (st.line.toList.drop pos)
    rw [List.length_drop, hsz] at hl
    refine ⟨⟨st.lnum, st.max⟩, ⟨h0 _, Pos.le_same _ _ _ (Nat.le_add_right _ _), Pos.le_refl' _, Pos.le_same _ _ _ (by rw [hsz]; omega), ?_⟩,
      nofun, fun _ => Pos.le_refl' _⟩
    rw [hsz]; exact Pos.le_refl' _
  | blank hlt =>
    refine ⟨⟨st.lnum, st.max⟩, ⟨h0 _, Pos.le_same _ _ _ (by rw [hsz]; omega), ?_⟩, nofun, fun _ => Pos.le_refl' _⟩
    rw [hsz]; exact Pos.le_refl' _
  | indent => exact ⟨⟨st.lnum, pos⟩, .one _ _ _ hhw (Pos.le_same _ _ _ (Nat.zero_le _)) (Pos.le_refl' _), fun _ => Pos.le_refl' _, nofun⟩
  | dedent => exact ⟨⟨st.lnum, pos⟩, (chain_replicate _ _ rfl rfl _).lo_le (h0 _), fun _ => Pos.le_refl' _, nofun⟩

theorem HeadScan.ord {st s : TState} {ts : List Tok5} (hF : FstrLen P) {hw : Pos}
    (hmax : st.max = st.line.size) (hpos : st.pos = 0) (hI : OInv hw st) (h : HeadScan E P st ts s) :
    ∃ hw', Chain hw ts hw' ∧ OInv hw' s := by
  cases h with
  | progs _ he => exact he.ord (st := { st with continued := false }) hF (hpos ▸ Nat.zero_le _) hI
  | stmt hnil hs =>
    obtain ⟨hw', c, hp, _⟩ := hs.ord hmax (by have := hI.hw_cur; rwa [cur, hpos] at this)
    exact ⟨hw', c, by show OI hw' _ _; rw [hs.progs, hnil]; exact OI.empty (hp rfl)⟩
  | inside => exact ⟨hw, .nil _, hI⟩

theorem HeadSkip.ord {st s : TState} {ts : List Tok5} {hw : Pos} (hmax : st.max = st.line.size) (hpos : st.pos = 0)
    (hI : OInv hw st) (h : HeadSkip P st ts s) : ∃ hw', Chain hw ts hw' ∧ OI hw' s.endProgs ⟨s.lnum, s.max⟩ := by
  obtain ⟨hw', c, _, hc⟩ := h.stmt.ord hmax (by have := hI.hw_cur; rwa [cur, hpos] at this)
  obtain ⟨e2, _, m1, _⟩ := h.stmt.frame
  exact ⟨hw', c, by rw [h.after, e2, m1]; exact OI.empty (hc rfl)⟩

theorem nextEndTokens_ord (hw : Pos) (ll : List Nat) (lc : Bool) (s : TState) (h1 : 1 ≤ s.lnum) (hhw : hw ≤ ⟨s.lnum - 1, ll.length⟩) :
    Chain hw (nextEndTokens ll lc s) ⟨s.lnum, 0⟩ := by
  have hstep : ∀ c : Nat, (⟨s.lnum - 1, c⟩ : Pos) ≤ ⟨s.lnum, 0⟩ := by
    intro c; rw [Pos.le_def]; simp only []; omega
  obtain ⟨nl, h, hnl⟩ := nextEndTokens_eq ll lc s
  rw [h]
  refine (Chain.append (b := ⟨s.lnum, 0⟩) ?_ (chain_replicate ⟨s.lnum, 0⟩ _ rfl rfl _)).append (c := ⟨s.lnum, 0⟩) (.one _ _ _ (Pos.le_refl' _) (Pos.le_refl' _) (Pos.le_refl' _))
  rcases hnl with rfl | ⟨rfl, _⟩
  · exact Pos.le_trans' hhw (hstep _)
  · exact .one _ _ _ hhw (Pos.le_same _ _ _ (Nat.le_succ _)) (hstep _)

theorem LineIter.ord {st s : TState} {l : List Nat} {ts : List Tok5} (hP : PseudoProgress P) (hF : FstrLen P)
    {hw : Pos} (hI : OI hw st.endProgs ⟨st.lnum, st.max⟩) (hi : LineIter E P st l ts s) :
    ∃ hw', Chain hw ts hw' ∧ s.max = s.line.size ∧ OI hw' s.endProgs ⟨s.lnum, s.max⟩ := by
  have hI0 : OInv hw (st.moveNextLine l) := OI.mono hI (Pos.le_next _ _ _)
  cases hi with
  | skip hh =>
    obtain ⟨_, h2, h3, _⟩ := hh.stmt.frame
    obtain ⟨hw', c, hc⟩ := hh.ord (by simp) rfl hI0
    exact ⟨hw', c, by rw [h3, h2]; simp, hc⟩
  | @scan _ _ s0 _ hh hs =>
    obtain ⟨_, _, h3⟩ := hh.frame (.moveNextLine st l)
    obtain ⟨hw', c, hp⟩ := hh.ord hF (by simp) rfl hI0
    obtain ⟨_, a, b⟩ := hs.adv h3
    obtain ⟨hw2, c2, i2⟩ := hs.ord hP hF h3 hp
    exact ⟨hw2, c.append c2, a.max, OI.mono i2 (cur_le_col _ _ (Nat.le_of_eq b))⟩

/-- by induction on the run, as `Scan.ord`; `Lines.fold` is about a text, and none is involved -/
theorem Lines.ord {rest : List (List Nat)} {st : TState} {ts : List Tok5} (hP : PseudoProgress P) (hF : FstrLen P)
    (h : Lines E P rest st ts) : ∀ {hw : Pos}, st.max = st.line.size → OI hw st.endProgs ⟨st.lnum, st.max⟩ → ∃ hi, Chain hw ts hi := by
  induction h with
  | @stop rest st s hh =>
    intro hw hmax hI
    have hl : s.lnum = st.lnum + 1 := hh.stmt.frame.1
    refine ⟨⟨s.lnum, 0⟩, nextEndTokens_ord hw _ _ s (by omega) ?_⟩
    rw [hl, Nat.add_sub_cancel, Array.length_toList, ← hmax]
    exact hI.hw_cur
  | next hi _ ih =>
    intro hw _ hI
    obtain ⟨hw', c, hmax', hI'⟩ := hi.ord hP hF hI
    obtain ⟨hi', c'⟩ := ih hmax' hI'
    exact ⟨hi', c.append c'⟩

theorem tokenizeLines_ord (E : Env) (P : Pats) (hP : PseudoProgress P) (hF : FstrLen P) :
    ∀ (fuel : Nat) (lines : List (List Nat)) (st : TState) (acc toks : List Tok5) (hw lo : Pos),
      st.max = st.line.size → OI hw st.endProgs ⟨st.lnum, st.max⟩ → Chain lo acc hw →
      tokenizeLines E P fuel lines st acc = .ok toks → ∃ hi, Chain lo toks hi := by
  intro fuel lines st acc toks hw lo hmax hI hacc h
  obtain ⟨ts, rfl, hl⟩ := tokenizeLines_cases fuel h
  obtain ⟨hi, c⟩ := hl.ord hP hF hmax hI
  exact ⟨hi, hacc.append c⟩

/-! The same said of the model functions. -/

theorem handleEndProgs_ord (E : Env) (P : Pats) (hF : FstrLen P) (hw : Pos) (st st' : TState) (ts : List Tok5)
    (hle : st.pos ≤ st.max) (hI : OInv hw st) (h : handleEndProgs E P st = .ok (ts, st')) :
    ∃ hw', Chain hw ts hw' ∧ OInv hw' st' :=
  (handleEndProgs_cases h).ord hF hle hI

theorem nextPseudoMatches_ord (E : Env) (P : Pats) (hw : Pos) (st st' : TState) (tok : Option Tok5)
    (hmax : st.max = st.line.size) (hle : st.pos ≤ st.max) (hI : OInv hw st) (hpre : PseudoPre st)
    (h : nextPseudoMatches E P st = .ok (tok, st')) : ∃ hw', Chain hw tok.toList hw' ∧ OInv hw' st' :=
  (nextPseudoMatches_cases h).ord ⟨hmax, hle⟩ hI hpre

theorem lineHead_ord (E : Env) (P : Pats) (hF : FstrLen P) (hw : Pos) (st s : TState) (ts : List Tok5) (cont brk : Bool)
    (hmax : st.max = st.line.size) (hpos : st.pos = 0) (hI : OInv hw st)
    (h : lineHead E P st = .ok (s, ts, cont, brk)) :
    s.lnum = st.lnum ∧
    ∃ hw', Chain hw ts hw' ∧ (brk = true → ts = []) ∧
      (brk = false → cont = true → OI hw' s.endProgs ⟨s.lnum, s.max⟩) ∧
      (brk = false → cont = false → OInv hw' s) := by
  rcases lineHead_cases h with ⟨e, hh⟩ | ⟨e, hh⟩ | ⟨e, hh⟩ <;> cases e
  · obtain ⟨hw', a, b⟩ := hh.ord hF hmax hpos hI
    exact ⟨(hh.frame ⟨hmax, hpos ▸ Nat.zero_le _⟩).1, hw', a, nofun, nofun, fun _ _ => b⟩
  · obtain ⟨hw', a, b⟩ := hh.ord hmax hpos hI
    exact ⟨hh.stmt.frame.1, hw', a, nofun, fun _ _ => b, nofun⟩
  · exact ⟨hh.stmt.frame.1, hw, .nil _, fun _ => rfl, nofun, nofun⟩

end XV.Tz
