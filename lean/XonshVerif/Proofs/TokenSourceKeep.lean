/-
  C01 / C09 - which raw tokens the parser sees: besides `kept_no_trivia` and `kept_sublist` (Model/TokenSource.lean):
  every token that is not a comment, a blank, a NL, a whitespace ERRORTOKEN or a NEWLINE is kept, and no two NEWLINE tokens
  are ever adjacent in what the parser sees.
-/
import XonshVerif.Model.TokenSource
namespace XV.Src
open XV XV.Rx XV.Tz

/-- tokens that are never dropped, whatever precedes them -/
def alwaysKept (E : Env) (t : Tok5) : Bool :=
  !(t.ty = .NL || t.ty = .COMMENT || t.ty = .WS || (t.ty = .ERRORTOKEN && t.str.all E.isSpace) || t.ty = .NEWLINE)

/-- a raw token that is not trivia and not a NEWLINE always reaches the parser -/
theorem kept_keeps_significant (E : Env) (raw : List Tok5) (t : Tok5) (h : t ∈ raw) (hk : alwaysKept E t = true) : t ∈ kept E raw := by
  rw [kept_eq]
  fun_induction keepFrom E none raw with
  | case1 => cases h
  | case2 prev r rs hb ih =>
    rcases List.mem_cons.mp h with rfl | h
    · simp only [alwaysKept, Bool.not_eq_true', Bool.or_eq_false_iff] at hk
      simp [isBlank, hk.1.1.1.1, hk.1.1.1.2, hk.1.1.2, hk.1.2, hk.2] at hb
    · exact ih h
  | case3 prev r rs hb ih =>
    rcases List.mem_cons.mp h with rfl | h
    · exact List.mem_cons_self
    · exact List.mem_cons_of_mem _ (ih h)

/-- no two neighbours are both NEWLINE -/
def noDoubleNL : List Tok5 → Bool
  | [] => true
  | [_] => true
  | a :: b :: r => !(a.ty = .NEWLINE && b.ty = .NEWLINE) && noDoubleNL (b :: r)

/-- with the last kept token in front: a NEWLINE right after a kept NEWLINE is blank, so it is not kept -/
theorem keepFrom_noDoubleNL (E : Env) (raw : List Tok5) (prev : Option Tok5) : noDoubleNL (prev.toList ++ keepFrom E prev raw) = true := by
  fun_induction keepFrom E prev raw with
  | case1 prev => cases prev <;> rfl
  | case2 prev t ts hb ih => exact ih
  | case3 prev r rs hnb ih =>
    cases prev with
    | none => exact ih
    | some p =>
      simp only [isBlank, Bool.or_eq_true, Bool.and_eq_true, decide_eq_true_eq, not_or, not_and] at hnb
      simp only [Option.toList_some, List.cons_append, List.nil_append, noDoubleNL, Bool.and_eq_true, Bool.not_eq_true',
        Bool.and_eq_false_iff, decide_eq_false_iff_not] at ih ⊢
      exact ⟨(Decidable.em (r.ty = .NEWLINE)).elim (fun h => Or.inl (hnb.2 h)) Or.inr, ih⟩

/-- the parser never sees two NEWLINE tokens in a row (`Tokenizer.peek` drops the second) -/
theorem kept_no_double_newline (E : Env) (raw : List Tok5) : noDoubleNL (kept E raw) = true :=
  kept_eq E raw ▸ keepFrom_noDoubleNL E raw none

end XV.Src
