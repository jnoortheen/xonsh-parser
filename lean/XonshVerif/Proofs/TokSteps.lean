/-
  The tokenizer model (tokenize.py: `_tokenize` and the functions it calls), function by function, as relations between
  the state before, the tokens emitted and the state after: one constructor per way through the function.  Each function
  is walked by its `_total` lemma: the result is a step of the relation or an error of the function's own, never the
  `loopFuel` of the two loops (`Total`); `_cases` is the `.ok` side of it (`specialAction` and `emitMiddle` cannot fail:
  `_step`).  The loops have one step equation each and come as inductive relations free of fuel and accumulator (`Scan`,
  `Lines`).  The invariants of the tokenizer (Proofs/TokStack, StringTiling, TokCover, TokOrder, TokGaps, TokBounds,
  TokStructure, FstringBalance) are proved by cases on these relations and do not unfold the model.  What does unfold it a
  second time: `lineHead_eof` and `measureIndent_le` here (with `measureIndent_ws`, Proofs/TokGaps, and
  `measureIndent_succ`, Properties/C09Indent: a loop no relation describes), and Proofs/TokShift, TokCompose, which are
  equations between results, errors included.

  THE RELATIONS FORGET what no invariant needs; compared with tokenize.py these are not deviations:
  `SpecialStep.level` allows any new bracket depth (no invariant reads `parenlev`), `.close` and `.colon` keep
  `in_braces()` (as: the top of the stack is a `{`-prog) but drop "at the field's bracket depth"; `EndStep.join` drops
  the condition under which a line may be joined (`pos == 0`, multi-line or continued string - otherwise the function
  raises); `StmtStep.comment` does not say that the character is `#`, `.blank` keeps CR / LF; `HeadScan.inside` drops
  `parenlev` / `continued`; no constructor says that `handle_end_progs` raises at the end of the input (that is
  `lineHead_eof`).

  NAMES.  A lemma `R.x` about a relation `R` says what a step of `R` does to the invariant `x`:
  `.adv` / `.frame` same line, not backwards (`Adv`) and still inside the line (`InLine`); `.lt` strictly forward;
  `.kinds` token types; `.shape` the mode stack (TokStack); `.src` token texts, with the text invariant (TokCover);
  `.ord` order (TokOrder); `.gaps` (TokGaps); `.bounds` (TokBounds); `.struct` / `.indents` INDENT / DEDENT
  (TokStructure); `.fstep` / `.fbal` f-string brackets (FstringBalance).  An invariant comes as a pair, within a line /
  between two lines (after a skipped line the scan position is stale, so nothing anchored at it holds there): text
  `FT` / `BT` and gaps `GI` / `BG` with converters `a_of_b` (the end of a line and the start of the next are one place:
  `LineOK.end_off`), order `OInv` = `OI` at the scan position / `OI` at the end of the line (`OI.mono`), bounds
  `BI` / `ProgsOK`; token-list predicates are `SrcOK`, `CovOK`, `TB`, `Chain`, `Gaps`, `AllInline`, `FNeutral`.  `f_x` is
  the same said of the model function `f`; the theorems about `tokenize` are `Lines.x` applied to `tokenize_lines`.
-/
import XonshVerif.Model.Tokenize
import XonshVerif.Proofs.Regex
import XonshVerif.Proofs.ListAux
namespace XV.Tz
open XV XV.Rx

variable {E : Env} {P : Pats} {lines : List (List Nat)}

/-- "the scan position only moves forward inside the same line" -/
structure Adv (st st' : TState) : Prop where
  line : st'.line = st.line
  max  : st'.max = st.max
  lnum : st'.lnum = st.lnum
  ge   : st.pos ≤ st'.pos

theorem Adv.refl (st : TState) : Adv st st := ⟨rfl, rfl, rfl, Nat.le_refl _⟩
theorem Adv.trans {a b c : TState} (h1 : Adv a b) (h2 : Adv b c) : Adv a c :=
  ⟨h2.line.trans h1.line, h2.max.trans h1.max, h2.lnum.trans h1.lnum, Nat.le_trans h1.ge h2.ge⟩

/-- the scan position is inside the line, whose length is `max` (what `LineOK` says without the text) -/
structure InLine (st : TState) : Prop where
  max : st.max = st.line.size
  pos : st.pos ≤ st.max

theorem InLine.of_adv {st st' : TState} (h : InLine st) (a : Adv st st') (hp : st'.pos ≤ st'.max) : InLine st' :=
  ⟨by rw [a.max, a.line]; exact h.max, hp⟩

@[simp] theorem popMode_line (st : TState) (e : Option Pos) : (st.popMode e).line = st.line := by
  unfold TState.popMode; split <;> (try split) <;> rfl
@[simp] theorem popMode_max (st : TState) (e : Option Pos) : (st.popMode e).max = st.max := by
  unfold TState.popMode; split <;> (try split) <;> rfl
@[simp] theorem popMode_pos (st : TState) (e : Option Pos) : (st.popMode e).pos = st.pos := by
  unfold TState.popMode; split <;> (try split) <;> rfl
@[simp] theorem popMode_lnum (st : TState) (e : Option Pos) : (st.popMode e).lnum = st.lnum := by
  unfold TState.popMode; split <;> (try split) <;> rfl
@[simp] theorem addProg_line (st : TState) (s e : Nat) (m : Mode) (p : PatKind) (q : List Nat) : (st.addProg s e m p q).line = st.line := rfl
@[simp] theorem addProg_max (st : TState) (s e : Nat) (m : Mode) (p : PatKind) (q : List Nat) : (st.addProg s e m p q).max = st.max := rfl
@[simp] theorem addProg_pos (st : TState) (s e : Nat) (m : Mode) (p : PatKind) (q : List Nat) : (st.addProg s e m p q).pos = st.pos := rfl
@[simp] theorem addProg_lnum (st : TState) (s e : Nat) (m : Mode) (p : PatKind) (q : List Nat) : (st.addProg s e m p q).lnum = st.lnum := rfl
@[simp] theorem moveNextLine_max (st : TState) (l : List Nat) : (st.moveNextLine l).max = (st.moveNextLine l).line.size := by
  simp [TState.moveNextLine]
@[simp] theorem moveNextLine_pos (st : TState) (l : List Nat) : (st.moveNextLine l).pos = 0 := rfl

/-- A branch of `bs` matched: its pattern reaches `e` from `pos`.  What Proofs/Regex* say of a match they say of `Reach`. -/
theorem matchBranches_reach {fuel : Nat} {bs : Branches} {s : Array Nat} {pos : Nat} {name : String} {e : Nat}
    (h : matchBranches E fuel bs s pos = .inl (some (name, e))) : ∃ r, (name, r) ∈ bs ∧ Reach E s r pos e := by
  induction bs with
  | nil => cases h
  | cons b bs ih =>
    obtain ⟨n, r⟩ := b
    simp only [matchBranches] at h
    split at h
    · rename_i hm
      cases h
      exact ⟨r, List.mem_cons_self, matchAt_reach hm⟩
    · obtain ⟨r', hr', hm'⟩ := ih h
      exact ⟨r', List.mem_cons_of_mem _ hr', hm'⟩
    · cases h

theorem matchBranches_ge {fuel : Nat} {bs : Branches} {s : Array Nat} {pos : Nat} {name : String} {e : Nat}
    (h : matchBranches E fuel bs s pos = .inl (some (name, e))) : pos ≤ e := by
  obtain ⟨r, _, hr⟩ := matchBranches_reach h
  exact hr.le

/-- Hypothesis delivered by the certificate `pseudo_branches_progress`. -/
def PseudoProgress (P : Pats) : Prop := ∀ b ∈ P.pseudo, b.1 ≠ "End" → nonNull b.2 = true

theorem matchBranches_gt (hP : PseudoProgress P) {fuel : Nat} {s : Array Nat} {pos : Nat} {name : String} {e : Nat}
    (hne : name ≠ "End") (h : matchBranches E fuel P.pseudo s pos = .inl (some (name, e))) : pos < e := by
  obtain ⟨r, hmem, hr⟩ := matchBranches_reach h
  exact hr.lt (hP (name, r) hmem hne)

/-- a match from the scan position ends inside the line -/
theorem hit_bounds {fuel : Nat} {bs : Branches} {st : TState} {g : String} {e : Nat}
    (hi : InLine st) (hm : matchBranches E fuel bs st.line st.pos = .inl (some (g, e))) : st.pos ≤ e ∧ e ≤ st.max := by
  obtain ⟨r, _, hr⟩ := matchBranches_reach hm
  exact ⟨hr.le, hi.max ▸ hr.le_size (hi.max ▸ hi.pos)⟩

theorem slice_eq (a : Array Nat) (i j : Nat) : slice a i j = (a.toList.drop i).take (j - i) := by
  unfold slice; simp [Array.toList_extract]

theorem slice_len (a : Array Nat) (i j : Nat) (hj : j ≤ a.size) : (slice a i j).length = j - i := by
  rw [slice_eq]; simp; omega

theorem slice_nonempty_lt (a : Array Nat) (i j : Nat) (h : slice a i j ≠ []) : i < j :=
  Nat.lt_of_not_le fun hge => h (by rw [slice_eq, Nat.sub_eq_zero_of_le hge, List.take_zero])

theorem measureIndent_le (tabsize : Nat) (line : Array Nat) : ∀ (fuel col pos : Nat), pos ≤ line.size →
    (measureIndent tabsize line fuel col pos).2 ≤ line.size := by
  intro fuel
  induction fuel with
  | zero => intro col pos h; simpa [measureIndent] using h
  | succ fuel ih =>
    intro col pos h
    unfold measureIndent
    split <;> first | (rename_i hc; exact ih _ _ (Array.getElem?_eq_some_iff.mp hc).1) | exact h

theorem rstripNewlines_prefix (l : List Nat) : rstripNewlines l <+: l := by
  simpa [rstripNewlines] using List.reverse_prefix.mpr (List.dropWhile_suffix (l := l.reverse) fun c => c = 13 || c = 10)

theorem rstripNewlines_len (l : List Nat) : (rstripNewlines l).length ≤ l.length := (rstripNewlines_prefix l).length_le

/-- What a function of the model returns: a step of its relation, or an error of its own - never `loopFuel`, which only
    the two loops report, when their fuel runs out. -/
def Total {α : Type} (r : Except Err α) (S : α → Prop) : Prop :=
  match r with
  | .ok a => S a
  | .error e => e ≠ .loopFuel

theorem Total.ok {α : Type} {r : Except Err α} {S : α → Prop} {a : α} (h : Total r S) (he : r = .ok a) : S a := by
  rw [he] at h; exact h

theorem Total.err {α : Type} {r : Except Err α} {S : α → Prop} {e : Err} (h : Total r S) (he : r = .error e) : e ≠ .loopFuel := by
  rw [he] at h; exact h

theorem Total.ite {α : Type} {c : Prop} [Decidable c] {a b : Except Err α} {S : α → Prop} (h1 : c → Total a S) (h2 : ¬ c → Total b S) :
    Total (if c then a else b) S :=
  ite_ind (Q := (Total · S)) h1 h2

theorem Total.imp {α : Type} {r : Except Err α} {S S' : α → Prop} (h : Total r S) (hs : ∀ a, S a → S' a) : Total r S' := by
  cases r with
  | ok a => exact hs a h
  | error e => exact h

/-- the plain (non-f) string literals: `isN`, under the name that `TopOK` (Proofs/StringTiling) uses -/
def textMode (p : EndProg) : Bool := match p.mode with | .none => true | _ => false

def isN (p : EndProg) : Bool := match p.mode with | .none => true | _ => false
def isM (p : EndProg) : Bool := match p.mode with | .middle _ => true | _ => false
def isB (p : EndProg) : Bool := match p.mode with | .inBraces _ => true | _ => false
def isC (p : EndProg) : Bool := match p.mode with | .inColon _ => true | _ => false

theorem inMiddle_eq (st : TState) (p : EndProg) (rest : List EndProg) (hp : st.endProgs = p :: rest) : st.inMiddle = isM p := by
  unfold TState.inMiddle isM; rw [hp]; rfl
theorem inBraces_eq (st : TState) (p : EndProg) (rest : List EndProg) (hp : st.endProgs = p :: rest) : st.inBraces = isB p := by
  unfold TState.inBraces isB; rw [hp]; rfl
theorem inBraces_top {st : TState} (h : st.inBraces = true) : ∃ b rest, st.endProgs = b :: rest ∧ isB b = true := by
  cases hs : st.endProgs with
  | nil => unfold TState.inBraces at h; rw [hs] at h; cases h
  | cons b rest => exact ⟨b, rest, rfl, inBraces_eq st b rest hs ▸ h⟩
theorem inColon_eq (st : TState) (p : EndProg) (rest : List EndProg) (hp : st.endProgs = p :: rest) : st.inColon = isC p := by
  unfold TState.inColon isC; rw [hp]; rfl

/-- exactly one of the four holds; every fact "kind X is not kind Y" is a row of this table -/
theorem kind_row (p : EndProg) :
    (isN p = true ∧ isM p = false ∧ isB p = false ∧ isC p = false) ∨
    (isN p = false ∧ isM p = true ∧ isB p = false ∧ isC p = false) ∨
    (isN p = false ∧ isM p = false ∧ isB p = true ∧ isC p = false) ∨
    (isN p = false ∧ isM p = false ∧ isB p = false ∧ isC p = true) := by
  unfold isN isM isB isC; cases p.mode <;> simp

theorem kind_congr {p p' : EndProg} (h : p'.mode = p.mode) :
    isN p' = isN p ∧ isM p' = isM p ∧ isB p' = isB p ∧ isC p' = isC p := by
  unfold isN isM isB isC; rw [h]; exact ⟨rfl, rfl, rfl, rfl⟩

theorem isM_notB {p : EndProg} (h : isM p = true) : isB p = false := by rcases kind_row p with r | r | r | r <;> simp_all
theorem isC_notB {p : EndProg} (h : isC p = true) : isB p = false := by rcases kind_row p with r | r | r | r <;> simp_all
theorem isN_notB {p : EndProg} (h : isN p = true) : isB p = false := by rcases kind_row p with r | r | r | r <;> simp_all
theorem isB_notM {p : EndProg} (h : isB p = true) : isM p = false := by rcases kind_row p with r | r | r | r <;> simp_all
theorem isC_notM {p : EndProg} (h : isC p = true) : isM p = false := by rcases kind_row p with r | r | r | r <;> simp_all
theorem isN_notM (p : EndProg) (h : isN p = true) : isM p = false := by rcases kind_row p with r | r | r | r <;> simp_all
theorem isM_notN {p : EndProg} (h : isM p = true) : isN p = false := by rcases kind_row p with r | r | r | r <;> simp_all
theorem isC_notN {p : EndProg} (h : isC p = true) : isN p = false := by rcases kind_row p with r | r | r | r <;> simp_all

theorem kind_cases (p : EndProg) : isN p = true ∨ isM p = true ∨ isB p = true ∨ isC p = true :=
  (kind_row p).imp And.left (.imp (·.2.1) (.imp (·.2.2.1) (·.2.2.2)))

/-- An operator changes the bracket depth; a closing bracket at the depth of an f-string field also pops the field, a
    `:` there opens the format spec. -/
inductive SpecialStep (st : TState) (start e : Nat) : TState → Prop
  | level (lev : Int) : SpecialStep st start e { st with parenlev := lev }
  | close {b : EndProg} {rest : List EndProg} (lev : Int) : st.endProgs = b :: rest → isB b = true →
      SpecialStep st start e { st.popMode (some ⟨st.lnum, e⟩) with parenlev := lev }
  | colon {b : EndProg} {rest : List EndProg} : slice st.line start e = [58] → st.endProgs = b :: rest → isB b = true →
      SpecialStep st start e (st.addProg (start + 1) e (.inColon st.parenlev) .rbrace [])

theorem specialAction_step (st : TState) (start e : Nat) : SpecialStep st start e (specialAction st start e) := by
  unfold specialAction
  refine ite_ind (fun _ => .level _) fun _ => ite_ind (fun _ => ?_) fun _ => ite_ind (fun hc => ?_) fun _ => .level st.parenlev
  · by_cases hc : (st.inBraces && st.atParenlev) = true
    · obtain ⟨b, rest, hs, hb⟩ := inBraces_top (Bool.and_eq_true_iff.mp hc).1
      simp only [hc, if_true]; exact .close _ hs hb
    · simp only [hc]; exact .level _
  · simp only [Bool.and_eq_true, decide_eq_true_eq] at hc
    obtain ⟨b, rest, hs, hb⟩ := inBraces_top hc.1.2
    exact .colon hc.1.1 hs hb

/-- the token types of the branches of `pseudoAction` that leave the state alone -/
def plainTy : TT → Bool
  | .WS | .COMMENT | .SEARCH_PATH | .NAME | .NUMBER | .NL | .NEWLINE => true
  | _ => false

/-- What the master pattern's match of `group` over `[start, e)` leads to. -/
inductive PseudoStep (st : TState) (group : String) (start e : Nat) : Option Tok5 → TState → Prop
  | fstring : group = "StringStart" →
      PseudoStep st group start e (some (mkTok st start e .FSTRING_START))
        (st.addProg e e (.middle st.parenlev) (.fstr (strOfCps (quoteOf (slice st.line start e)))) (quoteOf (slice st.line start e)))
  | string : group = "StringStart" →
      PseudoStep st group start e none
        (st.addProg start e .none (.endpat (strOfCps (quoteOf (slice st.line start e)))) (quoteOf (slice st.line start e)))
  -- the second premise is kept for progress (`PseudoMatch.lt`): a branch other than `End` is `nonNull`, else the match is not empty
  | plain (ty : TT) : plainTy ty = true → group ≠ "End" ∨ slice st.line start e ≠ [] →
      PseudoStep st group start e (some (mkTok st start e ty)) st
  | op : group = "Special" → PseudoStep st group start e (some (mkTok st start e .OP)) (specialAction st start e)
  | continuation : group = "End" → PseudoStep st group start e none { st with continued := true }

theorem pseudoAction_total (st : TState) (group : String) (start e : Nat) :
    Total (pseudoAction st group start e) fun r => PseudoStep st group start e r.1 r.2 := by
  unfold pseudoAction
  refine .ite (fun h => .ite (fun _ => .fstring h) fun _ => .string h) fun _ => ?_
  refine .ite (fun h => .plain _ rfl (.inl (h ▸ by simp))) fun _ => ?_
  refine .ite (fun h => .plain _ rfl (.inl (h ▸ by simp))) fun _ => ?_
  refine .ite (fun h => .plain _ rfl (.inl (h ▸ by simp))) fun _ => ?_
  refine .ite (fun h => .plain _ rfl (.inl (h ▸ by simp))) fun _ => ?_
  refine .ite (fun h => .plain _ rfl ?_) fun _ => ?_
  · -- a number: the group says so, or the text starts with a dot and is neither `.` nor `...`
    simp only [Bool.or_eq_true, decide_eq_true_eq, Bool.and_eq_true] at h
    exact h.elim (fun h => .inl (h ▸ by simp)) fun h => .inr fun hc => by rw [hc] at h; simp at h
  refine .ite (fun h => .plain _ (by split <;> rfl) (.inl (h ▸ by simp))) fun _ => ?_
  refine .ite (fun h => .op h) fun _ => ?_
  exact .ite (fun h => .continuation h) fun _ => nofun

/-- `next_psuedo_matches`: nothing happens, or the master pattern matched `group` up to `e`. -/
inductive PseudoMatch (E : Env) (P : Pats) (st : TState) : Option Tok5 → TState → Prop
  | idle : PseudoMatch E P st none st
  | hit {group : String} {e : Nat} {tok : Option Tok5} {st' : TState} : st.pos ≠ st.max → st.inMiddle = false →
      matchBranches E (reFuel st) P.pseudo st.line st.pos = .inl (some (group, e)) →
      PseudoStep { st with pos := e } group st.pos e tok st' → PseudoMatch E P st tok st'

theorem nextPseudoMatches_total (E : Env) (P : Pats) (st : TState) :
    Total (nextPseudoMatches E P st) fun r => PseudoMatch E P st r.1 r.2 := by
  unfold nextPseudoMatches
  split
  · exact .idle
  · rename_i hc
    simp only [Bool.or_eq_true, decide_eq_true_eq, not_or, Bool.not_eq_true] at hc
    split
    · nofun
    · exact .idle
    · rename_i hm; exact (pseudoAction_total _ _ _ _).imp fun _ => .hit hc.1 hc.2 hm

theorem nextPseudoMatches_cases {st st' : TState} {tok : Option Tok5}
    (h : nextPseudoMatches E P st = .ok (tok, st')) : PseudoMatch E P st tok st' :=
  (nextPseudoMatches_total E P st).ok h

/-- the state after `join_line` (the rest of the line goes into the literal) -/
def joined (st : TState) (p : EndProg) (rest : List EndProg) : TState :=
  { st with endProgs := { p with text := p.text ++ slice st.line st.pos st.line.size, contline := p.contline ++ st.line.toList } :: rest,
            pos := st.max }

theorem progToken_eq {st : TState} {p : EndProg} {rest : List EndProg} (hp : st.endProgs = p :: rest) (e : Nat) (ty : TT) :
    st.progToken e ty = (⟨ty, p.text ++ slice st.line st.pos e, p.start, ⟨st.lnum, e⟩, p.contline⟩,
      { st with endProgs := { p with text := p.text ++ slice st.line st.pos e } :: rest, pos := e }) := by
  unfold TState.progToken; rw [hp]

theorem popMode_none_eq (st : TState) (p : EndProg) (rest : List EndProg) (h : st.endProgs = p :: rest) :
    st.popMode none = { st with endProgs := rest } := by
  unfold TState.popMode; simp only [h]

theorem popMode_some_eq (st : TState) (pos : Pos) (b q : EndProg) (more : List EndProg) (h : st.endProgs = b :: q :: more) :
    st.popMode (some pos) = { st with endProgs := { q with start := pos, text := [], contline := [] } :: more } := by
  unfold TState.popMode; simp only [h]

def cur (st : TState) : Pos := ⟨st.lnum, st.pos⟩

/-- the top of the stack is a `{`-prog, or the stack is empty: where the master pattern may act -/
def TopB (st : TState) : Prop := ∀ p rest, st.endProgs = p :: rest → isB p = true

/-- whatever on top of the stack accumulates text has just been started or restarted at `c`: it starts there and holds no
    text yet (under `TopB` nothing does) -/
def Fresh (st : TState) (c : Pos) : Prop := ∀ q more, st.endProgs = q :: more → isB q = false → q.start = c ∧ q.text = []

theorem TopB.fresh {st : TState} (h : TopB st) (c : Pos) : Fresh st c :=
  fun q more hq hb => by rw [h q more hq] at hb; cases hb

theorem Fresh.start {st : TState} {c : Pos} (h : Fresh st c) : ∀ q more, st.endProgs = q :: more → isB q = false → q.start = c :=
  fun q more hq hb => (h q more hq hb).1

/-- the literal text of an f-string up to `me`, if there is any, becomes an FSTRING_MIDDLE token (`p :: rest` is the stack) -/
inductive EmitMid (st : TState) (me : Nat) (p : EndProg) (rest : List EndProg) : List Tok5 → TState → Prop
  | skip : me ≤ st.pos → p.text = [] → EmitMid st me p rest [] st
  | emit : EmitMid st me p rest [⟨.FSTRING_MIDDLE, p.text ++ slice st.line st.pos me, p.start, ⟨st.lnum, me⟩, p.contline⟩]
      { st with endProgs := { p with text := p.text ++ slice st.line st.pos me } :: rest, pos := me }

theorem emitMiddle_step {st : TState} {p : EndProg} {rest : List EndProg} (hp : st.endProgs = p :: rest) (me : Nat) :
    EmitMid st me p rest (emitMiddle st me p).1 (emitMiddle st me p).2 := by
  unfold emitMiddle
  split
  · rw [progToken_eq hp]; exact .emit
  · rename_i h
    simp only [Bool.or_eq_true, decide_eq_true_eq, not_or, Bool.not_eq_true', Bool.not_eq_false, List.isEmpty_iff] at h
    exact .skip (by omega) h.2

/-- `handle_fstring_progs` found the end of the literal part `p` on top of the stack: the closing quote, a `{` or the `}`
    that ends a format spec.  Before it comes what is left of the literal text (`EmitMid`). -/
inductive FstrHit (E : Env) (P : Pats) (st : TState) (p : EndProg) (rest : List EndProg) : List Tok5 → TState → Prop
  | quote {e : Nat} {mid : List Tok5} {s : TState} :
      matchBranches E (reFuel st) (patBranches P p.pat) st.line st.pos = .inl (some ("End", e)) →
      EmitMid st (e - p.quote.length) p rest mid s →
      FstrHit E P st p rest (mid ++ [⟨.FSTRING_END, p.quote, ⟨s.lnum, s.pos⟩, ⟨s.lnum, e⟩, st.line.toList⟩])
        { s.popMode none with pos := e }
  | lbrace {e : Nat} {mid : List Tok5} {s : TState} :
      matchBranches E (reFuel st) (patBranches P p.pat) st.line st.pos = .inl (some ("LBrace", e)) →
      EmitMid st (e - 1) p rest mid s →
      FstrHit E P st p rest (mid ++ [⟨.OP, [123], ⟨s.lnum, s.pos⟩, ⟨s.lnum, e⟩, st.line.toList⟩])
        { ({ s with parenlev := s.parenlev + 1 } : TState).addProg e e (.inBraces (s.parenlev + 1)) .empty [] with pos := e }
  | rbrace {g : String} {e : Nat} {mid : List Tok5} {s : TState} : g ≠ "" → g ≠ "End" → g ≠ "LBrace" →
      matchBranches E (reFuel st) (patBranches P p.pat) st.line st.pos = .inl (some (g, e)) →
      EmitMid st (e - 1) p rest mid s →
      FstrHit E P st p rest (mid ++ [⟨.OP, [125], ⟨s.lnum, s.pos⟩, ⟨s.lnum, e⟩, st.line.toList⟩])
        { (({ s with parenlev := s.parenlev - 1 } : TState).popMode none).popMode (some ⟨s.lnum, e⟩) with pos := e }

theorem handleFstringProgs_total (E : Env) (P : Pats) (st : TState) :
    Total (handleFstringProgs E P st) fun r =>
      (r.2.2 = false ∧ r.1 = [] ∧ r.2.1 = st) ∨ (r.2.2 = true ∧ ∃ p rest, st.endProgs = p :: rest ∧ FstrHit E P st p rest r.1 r.2.1) := by
  unfold handleFstringProgs
  split
  · exact .inl ⟨rfl, rfl, rfl⟩
  rename_i p rest hp
  split
  · nofun
  · exact .inl ⟨rfl, rfl, rfl⟩
  rename_i g e hm
  simp only []
  refine .ite (fun _ => .inl ⟨rfl, rfl, rfl⟩) fun hg => .ite (fun hE => ?_) fun hE => .ite (fun hL => ?_) fun hL => ?_
  · subst hE; exact .inr ⟨rfl, p, rest, hp, .quote hm (emitMiddle_step hp _)⟩
  · subst hL; exact .inr ⟨rfl, p, rest, hp, .lbrace hm (emitMiddle_step hp _)⟩
  · exact .inr ⟨rfl, p, rest, hp, .rbrace hg hE hL hm (emitMiddle_step hp _)⟩

/-- `handle_end_progs`: nothing to do (no literal open, or inside the braces of an f-string field); a piece of an
    f-string; the closing quote of a plain string; or no end in sight, and the rest of the line joins the literal. -/
inductive EndStep (E : Env) (P : Pats) (st : TState) : List Tok5 → TState → Prop
  | idle : TopB st → EndStep E P st [] st
  | fstring {p : EndProg} {rest : List EndProg} {ts : List Tok5} {s : TState} : st.endProgs = p :: rest →
      isM p = true ∨ isC p = true → FstrHit E P st p rest ts s → EndStep E P st ts s
  | string {p : EndProg} {rest : List EndProg} {g : String} {e : Nat} : st.endProgs = p :: rest → isN p = true →
      matchBranches E (reFuel st) (patBranches P p.pat) st.line st.pos = .inl (some (g, e)) →
      EndStep E P st [⟨.STRING, p.text ++ slice st.line st.pos e, p.start, ⟨st.lnum, e⟩, p.contline⟩]
        { st with endProgs := rest, pos := e }
  | join {p : EndProg} {rest : List EndProg} : st.endProgs = p :: rest → isB p = false → EndStep E P st [] (joined st p rest)

theorem handleEndProgs_total (E : Env) (P : Pats) (st : TState) : Total (handleEndProgs E P st) fun r => EndStep E P st r.1 r.2 := by
  unfold handleEndProgs
  split
  · rename_i hnil; exact .idle (fun p rest hp => by rw [hnil] at hp; cases hp)
  rename_i p rest hp
  refine .ite (fun _ => nofun) fun _ => .ite (fun hb => .idle fun q more hq => by rw [← inBraces_eq st q more hq]; exact hb) fun hb => ?_
  have hB : isB p = false := by rw [← inBraces_eq st p rest hp]; simpa using hb
  -- once nothing was matched, `endProgFinish` joins the line or complains
  have fin : Total (endProgFinish [] st false false) fun r => EndStep E P st r.1 r.2 := by
    unfold endProgFinish
    simp only [Bool.false_eq_true, if_false, hb, hp, List.isEmpty_cons, Bool.or_self]
    exact .ite (fun _ => .join hp hB) fun _ => by simp only [Bool.not_false, if_true]; nofun
  unfold endProgStep
  by_cases hmc : (st.inMiddle || st.inColon) = true
  · rw [if_pos hmc]
    have hk : isM p = true ∨ isC p = true := by
      rw [← inMiddle_eq st p rest hp, ← inColon_eq st p rest hp]; simpa using hmc
    have hfp := handleFstringProgs_total E P st
    cases hf : handleFstringProgs E P st with
    | error e => rw [hf] at hfp; exact hfp
    | ok r =>
      obtain ⟨ts0, s0, m0⟩ := r
      rw [hf] at hfp
      rcases hfp with ⟨rfl, rfl, rfl⟩ | ⟨rfl, q, more, hq, hit⟩
      · exact fin
      · rw [hp] at hq; cases hq
        exact .ite nofun fun _ => .ite (fun _ => .fstring hp hk hit) fun _ => .fstring hp hk hit
  · rw [if_neg hmc]
    have hN : isN p = true := by
      rw [inMiddle_eq st p rest hp, inColon_eq st p rest hp] at hmc
      rcases kind_cases p with h | h | h | h <;> simp [h] at hmc hB ⊢
    cases hm : matchBranches E (reFuel st) (patBranches P p.pat) st.line st.pos with
    | inr u => nofun
    | inl o =>
      cases o with
      | none => exact fin
      | some ge =>
        show EndStep E P st _ _
        rw [progToken_eq hp, popMode_none_eq _ _ rest rfl]
        exact .string hp hN hm

theorem handleEndProgs_cases {st st' : TState} {ts : List Tok5}
    (h : handleEndProgs E P st = .ok (ts, st')) : EndStep E P st ts st' :=
  (handleEndProgs_total E P st).ok h

def dedentTok (lnum pos : Nat) (line : List Nat) : Tok5 := ⟨.DEDENT, [], ⟨lnum, pos⟩, ⟨lnum, pos⟩, line⟩

/-- the `while column < indents[-1]` loop pops `k` entries, each of them above a `col` that is on the stack -/
inductive Dedents (col : Nat) : List Nat → Nat → List Nat → Prop
  | stop {ind : List Nat} : (∀ top, ind.getLast? = some top → top ≤ col) → Dedents col ind 0 ind
  | pop {ind ind' : List Nat} {top k : Nat} : ind.getLast? = some top → col < top → col ∈ ind →
      Dedents col ind.dropLast k ind' → Dedents col ind (k + 1) ind'

/-- an entry below the top of the stack is on the stack without its top -/
theorem mem_dropLast_of_lt {ind : List Nat} {top col : Nat} (htop : ind.getLast? = some top) (hlt : col < top) (hmem : col ∈ ind) :
    col ∈ ind.dropLast := by
  rcases List.mem_append.mp (List.dropLast_append_of_getLast? htop ▸ hmem) with h | h
  · exact h
  · rw [List.mem_singleton.mp h] at hlt; omega

/-- one entry goes per pop, and `col`, which is on the stack below every popped entry, stays -/
theorem Dedents.length {col k : Nat} {ind ind' : List Nat} (h : Dedents col ind k ind') :
    ind'.length + k = ind.length ∧ (ind ≠ [] → ind' ≠ []) := by
  induction h with
  | stop => exact ⟨rfl, id⟩
  | pop htop hlt hmem _ ih =>
    have := List.length_pos_iff.mpr (List.ne_nil_of_mem hmem)
    exact ⟨by have := ih.1; rw [List.length_dropLast] at this; omega, fun _ => ih.2 (List.ne_nil_of_mem (mem_dropLast_of_lt htop hlt hmem))⟩

theorem dedents_total {col lnum pos : Nat} {line : List Nat} : ∀ (fuel : Nat) (ind : List Nat) (acc : List Tok5), ind.length < fuel →
    Total (dedents col lnum pos line fuel ind acc) fun r =>
      ∃ k, r.2 = acc ++ List.replicate k (dedentTok lnum pos line) ∧ Dedents col ind k r.1
  | 0, _, _, hf => by omega
  | fuel + 1, ind, acc, hf => by
    simp only [dedents]
    split
    · rename_i hn; exact ⟨0, by simp, .stop (by simp [hn])⟩
    rename_i top htop
    refine .ite (fun hlt => .ite (fun _ => nofun) fun hc => ?_) fun hge => ⟨0, by simp, .stop fun t ht => by rw [htop] at ht; cases ht; omega⟩
    have hlen : ind.dropLast.length < fuel := by
      have := List.length_pos_iff.mpr (fun hn : ind = [] => by rw [hn] at htop; cases htop)
      rw [List.length_dropLast]; omega
    exact (dedents_total fuel _ _ hlen).imp fun r ⟨k, hk, hd⟩ =>
      ⟨k + 1, by rw [hk, List.replicate_succ]; simp [dedentTok], .pop htop hlt (by simpa using hc) hd⟩

/-- `next_statement` on a line whose leading whitespace ends in column `col` at position `pos`. -/
inductive StmtStep (st : TState) (col pos : Nat) : List Tok5 → TState → StmtAction → Prop
  | eof : st.line.isEmpty = true → StmtStep st col pos [] st .breakLoop
  | blankEnd : st.max ≤ pos → StmtStep st col pos [] { st with pos := pos } .breakLoop
  | comment : pos < st.max →
      StmtStep st col pos
        [⟨.COMMENT, rstripNewlines (st.line.toList.drop pos), ⟨st.lnum, pos⟩,
            ⟨st.lnum, pos + (rstripNewlines (st.line.toList.drop pos)).length⟩, st.line.toList⟩,
         ⟨.NL, st.line.toList.drop (pos + (rstripNewlines (st.line.toList.drop pos)).length),
            ⟨st.lnum, pos + (rstripNewlines (st.line.toList.drop pos)).length⟩, ⟨st.lnum, st.line.toList.length⟩, st.line.toList⟩]
        { st with pos := pos + (rstripNewlines (st.line.toList.drop pos)).length, commentLine := true } .continueLoop
  | blank : pos < st.max → st.line[pos]?.getD 0 = 13 ∨ st.line[pos]?.getD 0 = 10 →
      StmtStep st col pos [⟨.NL, st.line.toList.drop pos, ⟨st.lnum, pos⟩, ⟨st.lnum, st.line.toList.length⟩, st.line.toList⟩]
        { st with pos := pos } .continueLoop
  | indent : pos < st.max → st.indents.getLast?.getD 0 < col →
      StmtStep st col pos [⟨.INDENT, st.line.toList.take pos, ⟨st.lnum, 0⟩, ⟨st.lnum, pos⟩, st.line.toList⟩]
        { st with pos := pos, indents := st.indents ++ [col] } .proceed
  | dedent {k : Nat} {ind' : List Nat} : pos < st.max → col ≤ st.indents.getLast?.getD 0 → Dedents col st.indents k ind' →
      StmtStep st col pos (List.replicate k (dedentTok st.lnum pos st.line.toList))
        { st with pos := pos, indents := ind' } .proceed

/-- `StmtStep` at the column and position `measureIndent` finds -/
abbrev Stmt (P : Pats) (st : TState) : List Tok5 → TState → StmtAction → Prop :=
  StmtStep st (measureIndent P.tabsize st.line (st.max + 1) 0 st.pos).1 (measureIndent P.tabsize st.line (st.max + 1) 0 st.pos).2

theorem nextStatement_total (P : Pats) (st : TState) : Total (nextStatement P st) fun r => Stmt P st r.1 r.2.1 r.2.2 := by
  unfold nextStatement
  refine .ite (fun he => .eof he) fun _ => ?_
  simp only []
  refine .ite (fun hge => .blankEnd hge) fun hlt => ?_
  have hlt := Nat.lt_of_not_le hlt
  refine .ite (fun hc => .ite (fun _ => .comment hlt) fun h35 =>
    .blank hlt (by simpa only [Bool.or_eq_true, decide_eq_true_eq, h35, false_or] using hc)) fun _ => ?_
  have hd := fun ind acc => dedents_total (col := (measureIndent P.tabsize st.line (st.max + 1) 0 st.pos).1) (lnum := st.lnum)
    (pos := (measureIndent P.tabsize st.line (st.max + 1) 0 st.pos).2) (line := st.line.toList) _ ind acc (Nat.lt_succ_self _)
  split
  · rename_i e he
    split at he <;> exact (hd _ _).err he
  rename_i ind2 toks2 he
  split at he
  · rename_i hgt
    obtain ⟨k, hk, hdd⟩ := (hd _ _).ok he
    simp only [] at hk hdd
    show Stmt P st _ _ _
    cases hdd with
    | stop _ => rw [hk]; exact .indent hlt hgt
    | pop ht hlt' _ _ => simp at ht; omega
  · rename_i hle
    obtain ⟨k, hk, hdd⟩ := (hd _ _).ok he
    simp only [] at hk hdd
    show Stmt P st _ _ _
    rw [hk]; exact .dedent hlt (Nat.le_of_not_gt hle) hdd

/-- The head of a line that is then scanned (what `_tokenize` does with a freshly read line before the scan loop): a string
    or f-string goes on, or a statement starts (INDENT / DEDENTs), or we are inside brackets or after a continuation. -/
inductive HeadScan (E : Env) (P : Pats) (st : TState) : List Tok5 → TState → Prop
  | progs {ts : List Tok5} {s : TState} : st.endProgs ≠ [] → EndStep E P { st with continued := false } ts s → HeadScan E P st ts s
  | stmt {ts : List Tok5} {s : TState} : st.endProgs = [] → Stmt P st ts s .proceed → HeadScan E P st ts s
  | inside : st.endProgs = [] → st.line.isEmpty = false → HeadScan E P st [] { st with continued := false }

/-- a blank or comment-only line (`continue`) -/
structure HeadSkip (P : Pats) (st : TState) (ts : List Tok5) (s : TState) : Prop where
  nil : st.endProgs = []
  stmt : Stmt P st ts s .continueLoop

/-- the end of the input, or a last line of blanks without a line end (`break`) -/
structure HeadStop (P : Pats) (st s : TState) : Prop where
  nil : st.endProgs = []
  stmt : Stmt P st [] s .breakLoop

theorem lineHead_total (E : Env) (P : Pats) (st : TState) :
    Total (lineHead E P st) fun r =>
      (r.2.2 = (false, false) ∧ HeadScan E P st r.2.1 r.1) ∨ (r.2.2 = (true, false) ∧ HeadSkip P st r.2.1 r.1) ∨
      (r.2 = ([], false, true) ∧ HeadStop P st r.1) := by
  unfold lineHead
  refine .ite (fun hne => ?_) fun hemp => ?_
  · have he := handleEndProgs_total E P { st with continued := false }
    split
    · rename_i h0; exact he.err h0
    · rename_i h0; exact .inl ⟨rfl, .progs (by simpa using hne) (he.ok h0)⟩
  have hnil : st.endProgs = [] := by simpa using hemp
  refine .ite (fun _ => ?_) fun _ => .ite (fun _ => nofun) fun hne => .inl ⟨rfl, .inside hnil (by simpa using hne)⟩
  have hs := nextStatement_total P st
  split
  · rename_i h0; exact hs.err h0
  · rename_i h0; exact .inr (.inl ⟨rfl, hnil, hs.ok h0⟩)
  · rename_i h0
    cases hs.ok h0 with
    | eof he => exact .inr (.inr ⟨rfl, hnil, .eof he⟩)
    | blankEnd hb => exact .inr (.inr ⟨rfl, hnil, .blankEnd hb⟩)
  · rename_i h0; exact .inl ⟨rfl, .stmt hnil (hs.ok h0)⟩

theorem lineHead_cases {st s : TState} {ts : List Tok5} {cont brk : Bool}
    (h : lineHead E P st = .ok (s, ts, cont, brk)) :
    ((cont, brk) = (false, false) ∧ HeadScan E P st ts s) ∨ ((cont, brk) = (true, false) ∧ HeadSkip P st ts s) ∨
    ((ts, cont, brk) = ([], false, true) ∧ HeadStop P st s) :=
  (lineHead_total E P st).ok h

/-- At the end of the input (`readline()` returned "") the loop stops: an error or `break`.  The relations do not record
    that `handle_end_progs` raises there, so this is read off the functions. -/
theorem lineHead_eof {st s : TState} {ts : List Tok5} {cont brk : Bool}
    (hempty : st.line.isEmpty = true) (hpos : st.pos = 0)
    (h : lineHead E P st = .ok (s, ts, cont, brk)) : brk = true := by
  unfold lineHead at h
  split at h
  · rename_i hne
    -- handle_end_progs raises "EOF in multi-line string"
    split at h
    · cases h
    · rename_i ts0 s0 h0
      exfalso
      unfold handleEndProgs at h0
      split at h0
      · rename_i hnil; simp at hnil; simp [hnil] at hne
      · simp [hpos, hempty] at h0
  · split at h
    · unfold nextStatement at h
      simp [hempty] at h
      obtain ⟨_, _, _, h⟩ := h
      exact h
    · simp at h

def newlineTok (lnum col : Nat) : Tok5 := ⟨.NEWLINE, [], ⟨lnum, col⟩, ⟨lnum, col + 1⟩, []⟩

/-- `next_end_tokens`: a NEWLINE if the last line had none, a DEDENT per open indentation level, ENDMARKER -/
theorem nextEndTokens_eq (ll : List Nat) (lc : Bool) (st : TState) :
    ∃ nl, nextEndTokens ll lc st = nl ++ List.replicate (st.indents.length - 1) (dedentTok st.lnum 0 []) ++ [⟨.ENDMARKER, [], ⟨st.lnum, 0⟩, ⟨st.lnum, 0⟩, []⟩] ∧
      (nl = [] ∨ (nl = [newlineTok (st.lnum - 1) ll.length] ∧ ll ≠ [] ∧ ll.getLast? ≠ some 10)) := by
  unfold nextEndTokens
  refine ⟨_, by rw [List.map_const', List.length_drop]; rfl, ?_⟩
  split
  · rename_i c hc
    split
    · rename_i hcond
      refine .inr ⟨rfl, fun h => (by rw [h] at hc; cases hc), fun h => ?_⟩
      rw [hc] at h; cases h; simp at hcond
    · exact .inl rfl
  · exact .inl rfl

theorem SpecialStep.adv {st st' : TState} {start e : Nat} (h : SpecialStep st start e st') : Adv st st' ∧ st'.pos = st.pos := by
  cases h <;> exact ⟨⟨by simp, by simp, by simp, by simp⟩, by simp⟩

theorem PseudoStep.adv {st st' : TState} {g : String} {start e : Nat} {tok : Option Tok5} (h : PseudoStep st g start e tok st') :
    Adv st st' ∧ st'.pos = st.pos := by
  cases h with
  | op => exact (specialAction_step st start e).adv
  | _ => exact ⟨⟨rfl, rfl, rfl, Nat.le_refl _⟩, rfl⟩

theorem PseudoStep.tok {st st' : TState} {g : String} {start e : Nat} {t : Tok5} (h : PseudoStep st g start e (some t) st') :
    ∃ ty, t = mkTok st start e ty := by
  cases h <;> exact ⟨_, rfl⟩

/-- a token is only returned for a group other than `End`, or for a non-empty match -/
theorem PseudoStep.progress {st st' : TState} {g : String} {start e : Nat} {t : Tok5} (h : PseudoStep st g start e (some t) st') :
    g ≠ "End" ∨ slice st.line start e ≠ [] := by
  cases h with
  | fstring hg => exact .inl (hg ▸ by decide)
  | plain _ _ h => exact h
  | op hg => exact .inl (hg ▸ by decide)

theorem PseudoMatch.adv {st st' : TState} {tok : Option Tok5}
    (hi : InLine st) (h : PseudoMatch E P st tok st') : Adv st st' ∧ InLine st' := by
  cases h with
  | idle => exact ⟨Adv.refl _, hi⟩
  | hit _ _ hm hs =>
    obtain ⟨hge, hbd⟩ := hit_bounds hi hm
    obtain ⟨a, hp⟩ := hs.adv
    have a' : Adv st st' := ⟨a.line, a.max, a.lnum, hp ▸ hge⟩
    exact ⟨a', hi.of_adv a' (by rw [hp, a.max]; exact hbd)⟩

/-- a token of the master pattern moves the scan forward: its branch consumes a character (the progress certificate), or
    it is the `End` branch on a non-empty match -/
theorem PseudoMatch.lt {st st' : TState} {t : Tok5} (hP : PseudoProgress P)
    (h : PseudoMatch E P st (some t) st') : st.pos < st'.pos := by
  cases h with
  | hit _ _ hm hs =>
    rw [hs.adv.2]
    rcases hs.progress with hne | hne
    · exact matchBranches_gt hP hne hm
    · exact slice_nonempty_lt _ _ _ hne

theorem EmitMid.adv {st s : TState} {me : Nat} {p : EndProg} {rest : List EndProg} {mid : List Tok5} (h : EmitMid st me p rest mid s) :
    s.line = st.line ∧ s.max = st.max ∧ s.lnum = st.lnum := by
  cases h <;> exact ⟨rfl, rfl, rfl⟩

theorem EmitMid.top {st s : TState} {me : Nat} {p : EndProg} {rest : List EndProg} {mid : List Tok5} (hst : st.endProgs = p :: rest)
    (h : EmitMid st me p rest mid s) :
    ∃ p', s.endProgs = p' :: rest ∧ p'.mode = p.mode ∧ p'.pat = p.pat ∧ p'.quote = p.quote ∧ p'.start = p.start := by
  cases h with
  | skip => exact ⟨p, hst, rfl, rfl, rfl, rfl⟩
  | emit => exact ⟨_, rfl, rfl, rfl, rfl, rfl⟩

theorem FstrHit.adv {st s : TState} {p : EndProg} {rest : List EndProg} {ts : List Tok5}
    (hi : InLine st) (h : FstrHit E P st p rest ts s) : Adv st s ∧ InLine s := by
  cases h with
  | quote hm hem | lbrace hm hem | rbrace _ _ _ hm hem =>
    obtain ⟨hge, hbd⟩ := hit_bounds hi hm
    obtain ⟨a, b, c⟩ := hem.adv
    exact ⟨⟨by simp [a], by simp [b], by simp [c], hge⟩, by simp [a, b, hi.max], by simp [b, hbd]⟩

theorem EndStep.adv {st st' : TState} {ts : List Tok5}
    (hi : InLine st) (h : EndStep E P st ts st') : Adv st st' ∧ InLine st' := by
  cases h with
  | idle => exact ⟨Adv.refl _, hi⟩
  | fstring _ _ hit => exact hit.adv hi
  | string hp _ hm =>
    obtain ⟨hge, hbd⟩ := hit_bounds hi hm
    exact ⟨⟨rfl, rfl, rfl, hge⟩, hi.max, hbd⟩
  | join => exact ⟨⟨rfl, rfl, rfl, hi.pos⟩, hi.max, Nat.le_refl _⟩

def errTok (st : TState) : Tok5 :=
  ⟨.ERRORTOKEN, [st.line[st.pos]?.getD 0], ⟨st.lnum, st.pos⟩, ⟨st.lnum, st.pos + 1⟩, st.line.toList⟩

/-- one turn of the `while state.pos < state.max` loop: the string scanner, then the master pattern (`turn`: it yielded a
    token or the position has moved); a turn that neither yields a token nor moves makes one character an ERRORTOKEN -/
inductive ScanIter (E : Env) (P : Pats) (st : TState) : List Tok5 → TState → Prop
  | turn {ts1 : List Tok5} {st1 st2 : TState} {tok : Option Tok5} : st.pos < st.max → EndStep E P st ts1 st1 →
      PseudoMatch E P st1 tok st2 → (tok = none → st.pos ≠ st2.pos) → ScanIter E P st (ts1 ++ tok.toList) st2
  | err {ts1 : List Tok5} {st1 st2 : TState} : st.pos < st.max → EndStep E P st ts1 st1 → PseudoMatch E P st1 none st2 →
      st.pos = st2.pos → ScanIter E P st (ts1 ++ [errTok st2]) { st2 with pos := st2.pos + 1 }

inductive Scan (E : Env) (P : Pats) : TState → List Tok5 → TState → Prop
  | done {st : TState} : ¬ st.pos < st.max → Scan E P st [] st
  | step {st s st' : TState} {ts ts' : List Tok5} : ScanIter E P st ts s → Scan E P s ts' st' → Scan E P st (ts ++ ts') st'

/-- One turn of `scanLine`: the loop is over, or a step function raised an error of its own, or a `ScanIter` was taken
    and the loop goes on with one unit of fuel less. -/
theorem scanLine_step (E : Env) (P : Pats) (fuel : Nat) (st : TState) (acc : List Tok5) :
    (¬ st.pos < st.max ∧ scanLine E P (fuel + 1) st acc = .ok (st, acc)) ∨
    (∃ e acc', scanLine E P (fuel + 1) st acc = .error (e, acc') ∧ e ≠ .loopFuel) ∨
    (∃ ts s, ScanIter E P st ts s ∧ scanLine E P (fuel + 1) st acc = scanLine E P fuel s (acc ++ ts)) := by
  by_cases hlt : st.pos < st.max
  · rw [scanLine, if_pos hlt]
    refine .inr ?_
    have he := handleEndProgs_total E P st
    cases h1 : handleEndProgs E P st with
    | error e => exact .inl ⟨e, acc, rfl, he.err h1⟩
    | ok r =>
      obtain ⟨ts1, st1⟩ := r
      simp only []
      have hp := nextPseudoMatches_total E P st1
      cases h2 : nextPseudoMatches E P st1 with
      | error e => exact .inl ⟨e, acc ++ ts1, rfl, hp.err h2⟩
      | ok r =>
        obtain ⟨tok, st2⟩ := r
        cases tok with
        | some t => exact .inr ⟨_, st2, .turn hlt (he.ok h1) (hp.ok h2) nofun, by simp only [Option.toList, List.append_assoc]⟩
        | none =>
          by_cases heq : st.pos = st2.pos
          · exact .inr ⟨ts1 ++ [errTok st2], _, .err hlt (he.ok h1) (hp.ok h2) heq, by simp only [if_pos heq, List.append_assoc, errTok]⟩
          · exact .inr ⟨_, st2, .turn hlt (he.ok h1) (hp.ok h2) fun _ => heq, by simp only [if_neg heq, Option.toList, List.append_nil]⟩
  · rw [scanLine, if_neg hlt]; exact .inl ⟨hlt, rfl⟩

theorem scanLine_cases {st' : TState} {acc' : List Tok5} : ∀ (fuel : Nat) {st : TState} {acc : List Tok5},
    scanLine E P fuel st acc = .ok (st', acc') → ∃ ts, acc' = acc ++ ts ∧ Scan E P st ts st'
  | 0, _, _, h => by simp [scanLine] at h
  | fuel + 1, st, acc, h => by
    rcases scanLine_step E P fuel st acc with ⟨hge, e⟩ | ⟨_, _, e, _⟩ | ⟨ts, s, hi, e⟩ <;> rw [e] at h
    · cases h; exact ⟨[], by simp, .done hge⟩
    · cases h
    · obtain ⟨ts', rfl, hs⟩ := scanLine_cases fuel h
      exact ⟨ts ++ ts', by simp, .step hi hs⟩

theorem ScanIter.adv {st st' : TState} {ts : List Tok5}
    (hi : InLine st) (h : ScanIter E P st ts st') : Adv st st' ∧ InLine st' := by
  have turn : ∀ {ts1 st1 tok st2}, EndStep E P st ts1 st1 → PseudoMatch E P st1 tok st2 → Adv st st2 ∧ InLine st2 :=
    fun he hp => by
      obtain ⟨a1, b1⟩ := he.adv hi
      obtain ⟨a2, b2⟩ := hp.adv b1
      exact ⟨a1.trans a2, b2⟩
  cases h with
  | turn _ he hp => exact turn he hp
  | err hlt he hp heq =>
    obtain ⟨a, b⟩ := turn he hp
    have := a.max
    exact ⟨⟨a.line, a.max, a.lnum, Nat.le_succ_of_le a.ge⟩, b.max, by simp only []; omega⟩

/-- every turn of the scan loop moves forward: by a token of the master pattern, by an ERRORTOKEN, or it has moved already -/
theorem ScanIter.lt {st st' : TState} {ts : List Tok5} (hP : PseudoProgress P)
    (hi : InLine st) (h : ScanIter E P st ts st') : st.pos < st'.pos := by
  cases h with
  | @turn _ _ _ tok _ he hp hne =>
    obtain ⟨a1, b1⟩ := he.adv hi
    cases tok with
    | some t => exact Nat.lt_of_le_of_lt a1.ge (hp.lt hP)
    | none => exact Nat.lt_of_le_of_ne (a1.trans (hp.adv b1).1).ge (hne rfl)
  | err _ _ _ heq => exact heq ▸ Nat.lt_succ_self _

/-- Invariants of the scan loop: `I` relates the state to the tokens emitted so far.  (`Scan.ord`, `Scan.struct` need more
    than that and go by induction on `Scan`.) -/
theorem Scan.fold {I : TState → List Tok5 → Prop}
    (hstep : ∀ {s s' : TState} {acc ts : List Tok5}, I s acc → ScanIter E P s ts s' → I s' (acc ++ ts))
    {st st' : TState} {ts : List Tok5} (h : Scan E P st ts st') : ∀ {acc : List Tok5}, I st acc → I st' (acc ++ ts) := by
  induction h with
  | done => intro acc h0; simpa using h0
  | step hi _ ih => intro acc h0; rw [← List.append_assoc]; exact ih (hstep h0 hi)

theorem Scan.adv {st st' : TState} {ts : List Tok5}
    (hi : InLine st) (h : Scan E P st ts st') : Adv st st' ∧ InLine st' ∧ st'.pos = st'.max := by
  induction h with
  | done hge => exact ⟨Adv.refl _, hi, by have := hi.pos; omega⟩
  | step h1 _ ih =>
    obtain ⟨a, b⟩ := h1.adv hi
    obtain ⟨a', b'⟩ := ih b
    exact ⟨a.trans a', b'⟩

def pseudoTy : TT → Bool
  | .FSTRING_START | .OP => true
  | ty => plainTy ty
def scanTy : TT → Bool
  | .STRING | .FSTRING_MIDDLE | .FSTRING_END | .ERRORTOKEN => true
  | ty => pseudoTy ty
def stmtTy : TT → Bool
  | .COMMENT | .NL | .INDENT | .DEDENT => true
  | _ => false
def endTy : TT → Bool
  | .NEWLINE | .DEDENT | .ENDMARKER => true
  | _ => false
def FstrTok (t : Tok5) : Prop := t.ty = .FSTRING_MIDDLE ∨ t.ty = .FSTRING_END ∨ (t.ty = .OP ∧ (t.str = [123] ∨ t.str = [125]))

/-- a token type inside a class of types is none of those outside it -/
theorem ty_ne {S : TT → Bool} {a b : TT} (ha : S a = true) (hb : S b = false) : a ≠ b := fun e => by rw [e, hb] at ha; cases ha

theorem scanTy_of_pseudoTy {ty : TT} (h : pseudoTy ty = true) : scanTy ty = true := by
  cases ty <;> first | rfl | cases h

theorem PseudoStep.kinds {st st' : TState} {g : String} {start e : Nat} {t : Tok5} (h : PseudoStep st g start e (some t) st') :
    pseudoTy t.ty = true := by
  cases h with
  | plain ty hty => cases ty <;> first | rfl | cases hty
  | _ => rfl

theorem FstrHit.kinds {st s : TState} {p : EndProg} {rest : List EndProg} {ts : List Tok5}
    (h : FstrHit E P st p rest ts s) : ∀ t ∈ ts, FstrTok t := by
  have mid {me m s'} (hem : EmitMid st me p rest m s') : ∀ t ∈ m, FstrTok t := by
    cases hem with
    | skip => exact fun _ h => nomatch h
    | emit => exact List.forall_mem_singleton.mpr (.inl rfl)
  cases h with
  | quote _ hem => exact List.forall_mem_append.mpr ⟨mid hem, List.forall_mem_singleton.mpr (.inr (.inl rfl))⟩
  | lbrace _ hem => exact List.forall_mem_append.mpr ⟨mid hem, List.forall_mem_singleton.mpr (.inr (.inr ⟨rfl, .inl rfl⟩))⟩
  | rbrace _ _ _ _ hem => exact List.forall_mem_append.mpr ⟨mid hem, List.forall_mem_singleton.mpr (.inr (.inr ⟨rfl, .inr rfl⟩))⟩

theorem EndStep.kinds {st st' : TState} {ts : List Tok5} (h : EndStep E P st ts st') :
    ∀ t ∈ ts, scanTy t.ty = true := by
  cases h with
  | fstring _ _ hit =>
    intro t ht
    rcases hit.kinds t ht with h | h | ⟨h, _⟩ <;> rw [h] <;> rfl
  | _ => simp [scanTy]

theorem Scan.kinds {st st' : TState} {ts : List Tok5} (h : Scan E P st ts st') : ∀ t ∈ ts, scanTy t.ty = true := by
  induction h with
  | done => simp
  | step hi _ ih =>
    refine List.forall_mem_append.mpr ⟨?_, ih⟩
    cases hi with
    | turn _ he hp =>
      refine List.forall_mem_append.mpr ⟨he.kinds, fun t ht => ?_⟩
      cases hp with
      | idle => cases ht
      | hit _ _ _ hs => cases Option.mem_toList.mp ht; exact scanTy_of_pseudoTy hs.kinds
    | err _ he => exact List.forall_mem_append.mpr ⟨he.kinds, List.forall_mem_singleton.mpr rfl⟩

theorem StmtStep.kinds {st s : TState} {col pos : Nat} {ts : List Tok5} {a : StmtAction} (h : StmtStep st col pos ts s a) :
    ∀ t ∈ ts, stmtTy t.ty = true := by
  cases h with
  | eof | blankEnd => exact fun _ => nofun
  | comment => exact List.forall_mem_cons.mpr ⟨rfl, List.forall_mem_singleton.mpr rfl⟩
  | blank | indent => exact List.forall_mem_singleton.mpr rfl
  | dedent => exact fun t ht => List.eq_of_mem_replicate ht ▸ rfl

theorem nextEndTokens_kinds (ll : List Nat) (lc : Bool) (st : TState) : ∀ t ∈ nextEndTokens ll lc st, endTy t.ty = true := by
  obtain ⟨nl, h, hnl⟩ := nextEndTokens_eq ll lc st
  rw [h]; intro t ht
  simp only [List.mem_append, List.mem_replicate, List.mem_singleton] at ht
  rcases ht with (ht | ⟨_, rfl⟩) | rfl
  · rcases hnl with rfl | ⟨rfl, _⟩
    · cases ht
    · cases List.mem_singleton.mp ht; rfl
  · rfl
  · rfl

/-- the state is on line `lnum` of `lines` -/
structure LineOK (lines : List (List Nat)) (st : TState) : Prop where
  one : 1 ≤ st.lnum
  cur : lines[st.lnum - 1]? = some st.line.toList
  max : st.max = st.line.size
  pos : st.pos ≤ st.max

theorem LineOK.inLine {st : TState} (h : LineOK lines st) : InLine st := ⟨h.max, h.pos⟩

theorem LineOK.of_adv {st st' : TState} (h : LineOK lines st) (a : Adv st st') (hi : InLine st') :
    LineOK lines st' :=
  ⟨by rw [a.lnum]; exact h.one, by rw [a.lnum, a.line]; exact h.cur, hi.max, hi.pos⟩

theorem LineOK.continued {st : TState} (h : LineOK lines st) : LineOK lines { st with continued := false } :=
  ⟨h.one, h.cur, h.max, h.pos⟩

/-- where `next_statement` stops measuring -/
theorem LineOK.stmt_pos {st : TState} (h : LineOK lines st) (tabsize : Nat) :
    (measureIndent tabsize st.line (st.max + 1) 0 st.pos).2 ≤ st.max :=
  h.max ▸ measureIndent_le _ _ _ _ _ (h.max ▸ h.pos)

theorem InLine.moveNextLine (st : TState) (l : List Nat) : InLine (st.moveNextLine l) := ⟨moveNextLine_max st l, Nat.zero_le _⟩

theorem LineOK.moveNextLine {st : TState} {l : List Nat} (hl : lines[st.lnum]? = some l) :
    LineOK lines (st.moveNextLine l) :=
  ⟨Nat.le_add_left _ _, by simpa [TState.moveNextLine] using hl, by simp, Nat.zero_le _⟩

/-- the state holds the line read last (none before the first) -/
def PrevOK (lines : List (List Nat)) (st : TState) : Prop :=
  (st.lnum = 0 ∧ st.line.toList = []) ∨ (1 ≤ st.lnum ∧ lines[st.lnum - 1]? = some st.line.toList)

theorem PrevOK.init (lines : List (List Nat)) : PrevOK lines TState.init := .inl ⟨rfl, rfl⟩

theorem PrevOK.le {st : TState} (h : PrevOK lines st) : st.lnum ≤ lines.length := by
  rcases h with ⟨h0, _⟩ | ⟨_, hcur⟩
  · omega
  · have := (List.getElem?_eq_some_iff.mp hcur).1; omega

theorem StmtStep.frame {st s : TState} {col pos : Nat} {ts : List Tok5} {a : StmtAction} (h : StmtStep st col pos ts s a) :
    s.lnum = st.lnum ∧ s.line = st.line ∧ s.max = st.max ∧ s.endProgs = st.endProgs ∧ (a = .proceed → s.pos = pos) := by
  cases h <;> exact ⟨rfl, rfl, rfl, rfl, by simp⟩

theorem StmtStep.progs {st s : TState} {col pos : Nat} {ts : List Tok5} {a : StmtAction} (h : StmtStep st col pos ts s a) :
    s.endProgs = st.endProgs := h.frame.2.2.2.1

theorem HeadScan.frame {st s : TState} {ts : List Tok5}
    (hi : InLine st) (h : HeadScan E P st ts s) : s.lnum = st.lnum ∧ s.line = st.line ∧ InLine s := by
  cases h with
  | progs _ he => obtain ⟨a, b⟩ := he.adv (st := { st with continued := false }) ⟨hi.max, hi.pos⟩; exact ⟨a.lnum, a.line, b⟩
  | stmt _ hs =>
    obtain ⟨a, b, c, _, d⟩ := hs.frame
    exact ⟨a, b, by rw [c, b]; exact hi.max, by rw [d rfl, c, hi.max]; exact measureIndent_le _ _ _ _ _ (hi.max ▸ hi.pos)⟩
  | inside => exact ⟨rfl, rfl, hi.max, hi.pos⟩

theorem HeadScan.lineOK {st s : TState} {ts : List Tok5} (hl : LineOK lines st)
    (h : HeadScan E P st ts s) : LineOK lines s := by
  obtain ⟨h1, h2, h3⟩ := h.frame hl.inLine
  exact ⟨h1 ▸ hl.one, by rw [h1, h2]; exact hl.cur, h3.max, h3.pos⟩

theorem HeadSkip.after {st s : TState} {ts : List Tok5} (h : HeadSkip P st ts s) : s.endProgs = [] :=
  h.stmt.progs.trans h.nil

theorem HeadStop.after {st s : TState} (h : HeadStop P st s) : s.endProgs = [] :=
  h.stmt.progs.trans h.nil

/-- the same said of the function, for the equations of Proofs/TokCompose -/
theorem lineHead_frame {st s : TState} {ts : List Tok5} {cont brk : Bool}
    (hi : InLine st) (h : lineHead E P st = .ok (s, ts, cont, brk)) : s.lnum = st.lnum := by
  rcases lineHead_cases h with ⟨_, hh⟩ | ⟨_, hh⟩ | ⟨_, hh⟩
  · exact (hh.frame hi).1
  · exact hh.stmt.frame.1
  · exact hh.stmt.frame.1

inductive LineIter (E : Env) (P : Pats) (st : TState) (l : List Nat) : List Tok5 → TState → Prop
  | skip {ts : List Tok5} {s : TState} : HeadSkip P (st.moveNextLine l) ts s → LineIter E P st l ts s
  | scan {ts ts' : List Tok5} {s s' : TState} : HeadScan E P (st.moveNextLine l) ts s → Scan E P s ts' s' →
      LineIter E P st l (ts ++ ts') s'

/-- the tokens of the remaining lines `rest`, read from state `st` to the end of the input -/
inductive Lines (E : Env) (P : Pats) : List (List Nat) → TState → List Tok5 → Prop
  | stop {rest : List (List Nat)} {st s : TState} : HeadStop P (st.moveNextLine (rest.headD [])) s →
      Lines E P rest st (nextEndTokens st.line.toList st.commentLine s)
  | next {l : List Nat} {rest : List (List Nat)} {st s : TState} {ts ts' : List Tok5} : LineIter E P st l ts s →
      Lines E P rest s ts' → Lines E P (l :: rest) st (ts ++ ts')

/-- One turn of `tokenizeLines`: the head of the line raised an error of its own, or the input is over, or the line is
    skipped, or it is scanned - and then the loop goes on with the next line. -/
theorem tokenizeLines_step (E : Env) (P : Pats) (fuel : Nat) (rest : List (List Nat)) (st : TState) (acc : List Tok5) :
    (∃ e, tokenizeLines E P (fuel + 1) rest st acc = .error (e, acc) ∧ e ≠ .loopFuel) ∨
    (∃ s, HeadStop P (st.moveNextLine (rest.headD [])) s ∧
      tokenizeLines E P (fuel + 1) rest st acc = .ok (acc ++ nextEndTokens st.line.toList st.commentLine s)) ∨
    (∃ l rest' ts s, rest = l :: rest' ∧ HeadSkip P (st.moveNextLine l) ts s ∧
      tokenizeLines E P (fuel + 1) rest st acc = tokenizeLines E P fuel rest' s (acc ++ ts)) ∨
    (∃ l rest' ts s, rest = l :: rest' ∧ HeadScan E P (st.moveNextLine l) ts s ∧
      tokenizeLines E P (fuel + 1) rest st acc =
        match scanLine E P (2 * s.max + 4) s (acc ++ ts) with
        | .error e => .error e
        | .ok (s2, acc2) => tokenizeLines E P fuel rest' s2 acc2) := by
  rw [tokenizeLines]
  have hh := lineHead_total E P (st.moveNextLine (rest.headD []))
  cases h : lineHead E P (st.moveNextLine (rest.headD [])) with
  | error e => exact .inl ⟨e, rfl, hh.err h⟩
  | ok r =>
    obtain ⟨s, ts, cont, brk⟩ := r
    simp only []
    -- the input is not exhausted: at its end `lineHead` breaks
    have more : brk = false → ∃ l rest', rest = l :: rest' := fun hb => by
      cases rest with
      | nil => subst hb; cases lineHead_eof (by simp [TState.moveNextLine]) rfl h
      | cons l r => exact ⟨l, r, rfl⟩
    rcases hh.ok h with ⟨e, hs⟩ | ⟨e, hs⟩ | ⟨e, hs⟩ <;> cases e
    · obtain ⟨l, rest', rfl⟩ := more rfl; exact .inr (.inr (.inr ⟨l, rest', ts, s, rfl, hs, rfl⟩))
    · obtain ⟨l, rest', rfl⟩ := more rfl; exact .inr (.inr (.inl ⟨l, rest', ts, s, rfl, hs, by simp⟩))
    · exact .inr (.inl ⟨s, hs, by simp⟩)

theorem tokenizeLines_cases {out : List Tok5} : ∀ (fuel : Nat) {rest : List (List Nat)} {st : TState} {acc : List Tok5},
    tokenizeLines E P fuel rest st acc = .ok out → ∃ ts, out = acc ++ ts ∧ Lines E P rest st ts
  | 0, _, _, _, h => by simp [tokenizeLines] at h
  | fuel + 1, rest, st, acc, h => by
    rcases tokenizeLines_step E P fuel rest st acc with ⟨_, e, _⟩ | ⟨s, hh, e⟩ | ⟨l, rest', ts, s, rfl, hh, e⟩ |
      ⟨l, rest', ts, s, rfl, hh, e⟩ <;> rw [e] at h
    · cases h
    · cases h; exact ⟨_, rfl, .stop hh⟩
    · obtain ⟨ts', rfl, hl⟩ := tokenizeLines_cases fuel h
      exact ⟨ts ++ ts', by simp, .next (.skip hh) hl⟩
    · split at h
      · cases h
      rename_i s2 acc2 hs
      obtain ⟨ts2, rfl, hs'⟩ := scanLine_cases _ hs
      obtain ⟨ts', rfl, hl⟩ := tokenizeLines_cases fuel h
      exact ⟨ts ++ ts2 ++ ts', by simp, .next (.scan hh hs') hl⟩

theorem LineIter.frame {st s : TState} {l : List Nat} {ts : List Tok5}
    (h : LineIter E P st l ts s) : s.lnum = st.lnum + 1 ∧ s.line = l.toArray := by
  cases h with
  | skip hh => obtain ⟨a, b, _⟩ := hh.stmt.frame; exact ⟨a, b⟩
  | scan hh hs =>
    obtain ⟨a, b, c⟩ := hh.frame (.moveNextLine st l)
    obtain ⟨a', _⟩ := hs.adv c
    exact ⟨a'.lnum.trans a, a'.line.trans b⟩

theorem LineIter.prevOK {st s : TState} {l : List Nat} {ts : List Tok5}
    (hl : lines[st.lnum]? = some l) (h : LineIter E P st l ts s) : PrevOK lines s := by
  obtain ⟨a, b⟩ := h.frame
  exact .inr ⟨by omega, by rw [a, b]; simpa using hl⟩

/-- Invariants of the line loop over the text `lines`: `I` relates the state between two lines to the tokens emitted so
    far; the bookkeeping of where in `lines` the loop stands and which line the state holds (`PrevOK`) is done here.  (What
    speaks of no text - `Lines.ord`, `Lines.struct`, `Lines.fbal` - goes by induction on `Lines`.) -/
theorem Lines.fold {I : TState → List Tok5 → Prop} {Q : List Tok5 → Prop}
    (hiter : ∀ {st s : TState} {l : List Nat} {acc ts : List Tok5}, I st acc → lines[st.lnum]? = some l →
      LineIter E P st l ts s → I s (acc ++ ts))
    (hstop : ∀ {st s : TState} {acc : List Tok5}, I st acc → PrevOK lines st →
      HeadStop P (st.moveNextLine (lines[st.lnum]?.getD [])) s →
      Q (acc ++ nextEndTokens st.line.toList st.commentLine s))
    {rest : List (List Nat)} {st : TState} {ts : List Tok5} (h : Lines E P rest st ts) :
    ∀ {acc : List Tok5}, rest = lines.drop st.lnum → PrevOK lines st → I st acc → Q (acc ++ ts) := by
  induction h with
  | stop hh =>
    intro acc hr hprev h0
    rw [hr, List.headD_eq_head?_getD, List.head?_drop] at hh
    exact hstop h0 hprev hh
  | @next l rest st s ts ts' hi _ ih =>
    intro acc hr _ h0
    have hl : lines[st.lnum]? = some l := by rw [← List.head?_drop, ← hr]; rfl
    rw [← List.append_assoc]
    refine ih ?_ (hi.prevOK hl) (hiter h0 hl hi)
    rw [hi.frame.1, ← List.drop_drop, ← hr]; rfl

theorem tokenize_ok {src : List Nat} (h : (tokenize E P src).err = none) :
    tokenizeLines E P ((splitLines src []).length + 2) (splitLines src []) TState.init [] = .ok (tokenize E P src).toks := by
  unfold tokenize at h ⊢
  simp only [] at h ⊢
  cases hts : tokenizeLines E P ((splitLines src []).length + 2) (splitLines src []) TState.init [] with
  | ok ts => rfl
  | error e => rw [hts] at h; cases h

/-- a finished run of `tokenize` is a run of the line loop over the physical lines of the text, from the initial state -/
theorem tokenize_lines {src : List Nat} (h : (tokenize E P src).err = none) :
    Lines E P (splitLines src []) TState.init (tokenize E P src).toks := by
  obtain ⟨ts, e, hl⟩ := tokenizeLines_cases _ (tokenize_ok h)
  rw [e]; exact hl

end XV.Tz
