/-
  C17 - "consumes exactly the tokens of the match": for every recogniser program none of whose actions can be falsy
  (the well-formedness condition the random grammars satisfy), every rule - plain, memoised or left-recursive - that
  succeeds with end position `e` leaves the tokenizer AT `e`, and a rule that fails leaves it where it was called.
  Invariant carried along: every failure entry of the memo cache records its own position.
-/
import XonshVerif.Proofs.PegStep
namespace XV.Peg

@[simp] theorem isAbort_ok (e : Nat) : (Res.ok e).isAbort = false := rfl
@[simp] theorem isAbort_fail (e : Nat) : (Res.fail e).isAbort = false := rfl
@[simp] theorem isAbort_oof : Res.outOfFuel.isAbort = true := rfl
@[simp] theorem isOk_ok (e : Nat) : (Res.ok e).isOk = true := rfl
@[simp] theorem isOk_fail (e : Nat) : (Res.fail e).isOk = false := rfl

theorem isAbort_false_cases {res : Res} (h : res.isAbort = false) : (∃ e, res = .ok e) ∨ (∃ m, res = .fail m) :=
  res.cases3.resolve_left (by rw [h]; nofun)

/-- NF = not falsy: whatever the action returns, `if res:` takes it as a success (or it raises) -/
def actNF : ActKind → Bool
  | .none => false
  | .viaItem _ => false
  | _ => true

def BodyNF : Body → Prop
  | .alts as _ _ => ∀ a ∈ as, actNF a.act = true
  | _ => True

def NoFalsy (prog : Prog) : Prop := ∀ (id : Nat) (r : Rule), prog[id]? = some r → BodyNF r.body

/-- a cached failure stands at its own position - for EVERY rule, which holds only while no action is falsy;
    `CacheInv` (PegVerbose) is the part for left-recursive rules, which both wrappers keep whatever the actions do -/
def CacheOK (s : St) : Prop := ∀ p id e, cacheGet s.cache p id = some (.fail e) → e = p

/-- what a call at position `mark` promises: success ends where the result says, failure ends at `mark`
    (`G` for the seed-growing loop, whose calls start at a `mark` that is not the position of the state it is given) -/
def GClaim (mark : Nat) (r : Res × St) : Prop :=
  (∀ e, r.1 = .ok e → r.2.pos = e) ∧ (∀ m, r.1 = .fail m → r.2.pos = mark) ∧ CacheOK r.2

/-- ... in particular a failure consumes nothing -/
abbrev Claim (s : St) (r : Res × St) : Prop := GClaim s.pos r

theorem cacheOK_of_eq {s s' : St} (h : s'.cache = s.cache) (hs : CacheOK s) : CacheOK s' := by
  unfold CacheOK at *; rw [h]; exact hs

theorem cacheOK_put {s : St} (hs : CacheOK s) (p i : Nat) (r : Res) (hr : ∀ e, r = .fail e → e = p) : CacheOK (s.put p i r) := by
  intro p' i' e hg
  rcases cacheGet_cachePut_some (c := s.cache) hg with ⟨rfl, -, he⟩ | h0
  · exact hr e he.symm
  · exact hs p' i' e h0

theorem GClaim.abort {mark : Nat} {r : Res × St} (ha : r.1.isAbort = true) (hc : CacheOK r.2) : GClaim mark r :=
  ⟨fun e he => (by rw [he] at ha; cases ha), fun m hm => (by rw [hm] at ha; cases ha), hc⟩

theorem GClaim.ofOk {mark : Nat} {s1 : St} {e : Nat} (h : s1.pos = e) (hc : CacheOK s1) : GClaim mark (.ok e, s1) :=
  ⟨fun _ he => Res.ok.inj he ▸ h, nofun, hc⟩

theorem GClaim.ofFail {mark : Nat} {s1 : St} {m : Nat} (h : s1.pos = mark) (hc : CacheOK s1) : GClaim mark (.fail m, s1) :=
  ⟨nofun, fun _ _ => h, hc⟩

theorem GClaim.congr {mark mark' : Nat} {r : Res × St} {s' : St} (h : GClaim mark r) (hm : mark = mark') (hp : s'.pos = r.2.pos)
    (hc : s'.cache = r.2.cache) : GClaim mark' (r.1, s') :=
  ⟨fun e he => hp.trans (h.1 e he), fun m he => hm ▸ hp.trans (h.2.1 m he), cacheOK_of_eq hc h.2.2⟩

variable {prog : Prog} {w : Array RTok}

theorem tok_claim {q : Prim} {test : RTok → Bool} (hq : leafTest q = some test) (n : Nat) {s : St} (hs : CacheOK s) :
    Claim s (execPrim prog w (n + 1) q s) := by
  rw [execPrim_tok hq]
  cases w[s.pos]? with
  | none => exact .abort rfl hs
  | some t =>
    apply ite_ind <;> intro _
    · exact .ofOk rfl hs
    · exact .ofFail rfl hs

theorem cacheHit_claim (lr : Bool) {s : St} {id : Nat} {c : Res} (hs : CacheOK s) (hc : cacheGet s.cache s.pos id = some c) :
    Claim s (cacheHit lr s c) := by
  cases c with
  | ok e => exact .ofOk rfl hs
  | fail e =>
    simp only [cacheHit]
    split
    · exact .ofFail rfl hs
    · exact .ofFail (hs _ _ _ hc) hs
  | _ => exact .abort rfl hs

theorem memoStore_claim {s : St} (i : Nat) {x : Res × St} (h : Claim s x) : Claim s (memoStore s.pos i x) := by
  unfold memoStore
  obtain ⟨res, s1⟩ := x
  rcases res.cases3 with ha | ⟨e, rfl⟩ | ⟨m, rfl⟩
  · rw [if_pos ha]; exact h
  · exact ⟨h.1, h.2.1, cacheOK_put h.2.2 s.pos i (.ok _) nofun⟩
  · exact ⟨h.1, h.2.1, cacheOK_put h.2.2 s.pos i (.fail _) (fun _ he => Res.fail.inj he ▸ h.2.1 m rfl)⟩

theorem actResult_claim {mark : Nat} {act : ActKind} (oks : List Bool) {s : St} (hnf : actNF act = true) (hc : CacheOK s) :
    GClaim mark (actResult act oks s) := by
  cases act with
  | truthy | mayRaise | gate _ => exact .ofOk rfl hc
  | raises | unknown => exact .abort rfl hc
  | none | viaItem _ => cases hnf

theorem finish_claim (id mark : Nat) (last : Option Nat) (lastmark : Nat) (s : St) (hs : CacheOK s)
    (hl : ∀ e, last = some e → e = lastmark) : GClaim mark (grow.finish id mark last lastmark s) := by
  unfold grow.finish
  cases last with
  | some e => exact .ofOk (hl e rfl).symm (cacheOK_put (s := s.reset lastmark) hs mark id (.ok _) (fun _ he => nomatch he))
  | none =>
    exact .ofFail rfl (cacheOK_put (s := (s.reset lastmark).reset mark) hs mark id _ (fun _ he => (Res.fail.inj he).symm))

structure ConsInv (prog : Prog) (w : Array RTok) (fuel : Nat) : Prop where
  prim : ∀ p s, CacheOK s → Claim s (execPrim prog w fuel p s)
  rule : ∀ id s, CacheOK s → Claim s (execRule prog w fuel id s)
  grow : ∀ id body mark last lastmark s, BodyNF body → CacheOK s → (∀ e, last = some e → e = lastmark) →
          GClaim mark (grow prog w fuel id body mark last lastmark s)
  body : ∀ rid b s, BodyNF b → CacheOK s → Claim s (execBody prog w fuel rid b s)
  seqAlts : ∀ ps mark s, s.pos = mark → CacheOK s → Claim s (execSeqAlts prog w fuel ps mark s)
  alts : ∀ rid idx as mark s, (∀ a ∈ as, actNF a.act = true) → s.pos = mark → CacheOK s → Claim s (execAlts prog w fuel rid idx as mark s)
  items : ∀ its cut oks s, CacheOK s → CacheOK (execItems prog w fuel its cut oks s).2.2.2.1
  item : ∀ it s, CacheOK s → Claim s (execItem prog w fuel it s)
  /-- the last clause is for `p+` with no match at all: the loop then stands at `mark`, where the item began, and the item fails -/
  rep : ∀ p mark n s, CacheOK s → CacheOK (execRepeat prog w fuel p mark n s).2.2 ∧ n ≤ (execRepeat prog w fuel p mark n s).1 ∧
          ((execRepeat prog w fuel p mark n s).1 = n → (execRepeat prog w fuel p mark n s).2.1.isAbort = false → (execRepeat prog w fuel p mark n s).2.2.pos = mark)
  sepRep : ∀ e sp mark n s, CacheOK s → CacheOK (execSepRepeat prog w fuel e sp mark n s).2.2

theorem consInv_zero (w : Array RTok) : ConsInv prog w 0 := by
  constructor <;> intros <;>
    simp only [execPrim, execRule, grow, execBody, execSeqAlts, execAlts, execItems, execItem, execRepeat, execSepRepeat] <;>
    first | exact .abort rfl ‹_› | assumption | exact ⟨‹_›, Nat.le_refl _, fun _ h => nomatch h⟩

theorem consInv_succ (w : Array RTok) (hnf : NoFalsy prog) (fuel : Nat) (ih : ConsInv prog w fuel) : ConsInv prog w (fuel + 1) := by
  refine ⟨?prim, ?rule, ?grow, ?body, ?seqAlts, ?alts, ?items, ?item, ?rep, ?sepRep⟩
  case prim =>
    intro p s hs
    cases p with
    | rule id => simp only [execPrim]; exact ih.rule id s hs
    | _ => exact tok_claim rfl fuel hs
  case rule =>
    intro id s hs
    rw [execRule_succ]
    cases hr : prog[id]? with
    | none => exact .abort rfl hs
    | some r =>
      have hb : BodyNF r.body := hnf id r hr
      simp only []
      cases r.deco with
      | none => exact ih.body id r.body s hb hs
      | logger => exact ih.body id r.body s hb hs
      | memo =>
        simp only []
        cases hc : cacheGet s.cache s.pos id with
        | some c => exact cacheHit_claim _ hs hc
        | none => exact memoStore_claim id (ih.body id r.body s hb hs)
      | leftrec =>
        simp only []
        cases hc : cacheGet s.cache s.pos id with
        | some c => exact cacheHit_claim _ hs hc
        | none =>
          exact ih.grow id r.body s.pos none s.pos _ hb (cacheOK_put hs s.pos id _ (fun _ he => (Res.fail.inj he).symm)) (fun _ he => nomatch he)
  case grow =>
    intro id body mark last lastmark s hb hs hl
    have h1 := ih.body id body (s.reset mark) hb hs
    generalize hx : execBody prog w fuel id body (s.reset mark) = x at h1
    rw [grow_succ hx]
    apply ite_ind <;> intro _
    · exact .abort ‹_› h1.2.2
    · apply ite_ind <;> intro _
      · exact ih.grow id body mark _ _ _ hb (cacheOK_put h1.2.2 mark id (.ok _) (fun _ he => nomatch he)) (fun _ he => (Option.some.inj he).symm)
      · exact finish_claim id mark last lastmark x.2 h1.2.2 hl
  case body =>
    intro rid b s hb hs
    cases b with
    | unmodelled => simp only [execBody]; exact .abort rfl hs
    | seqAlts ps => simp only [execBody]; exact ih.seqAlts ps s.pos s rfl hs
    | alts as wo usesLoc =>
      simp only [execBody]
      cases hE : bodyEntry w wo usesLoc s with
      | none => exact .abort rfl hs
      | some sB =>
        obtain ⟨e1, e2⟩ := bodyEntry_same w wo usesLoc s sB hE
        exact (ih.alts rid 0 as sB.pos sB hb rfl (cacheOK_of_eq e2 hs)).congr e1 (bodyExit_same ..).1 (bodyExit_same ..).2
  case seqAlts =>
    intro ps mark s hpos hs
    subst hpos
    cases ps with
    | nil => simp only [execSeqAlts]; exact .ofFail rfl hs
    | cons p ps =>
      have h1 := ih.prim p s hs
      generalize hx : execPrim prog w fuel p s = x at h1
      rw [execSeqAlts_cons hx]
      apply ite_ind <;> intro _
      · exact h1
      · exact ih.seqAlts ps s.pos (x.2.reset s.pos) rfl h1.2.2
  case alts =>
    intro rid idx as mark s hacts hpos hs
    subst hpos
    cases as with
    | nil => simp only [execAlts]; exact .ofFail rfl hs
    | cons a as =>
      have hi := ih.items a.items false [] s hs
      generalize hx : execItems prog w fuel a.items false [] s = x at hi
      rw [execAlts_cons hx]
      apply ite_ind <;> intro _
      · exact .abort ‹_› hi
      · apply ite_ind <;> intro _
        · exact actResult_claim _ (hacts a (List.mem_cons_self ..)) hi
        · apply ite_ind <;> intro _
          · exact .ofFail rfl hi
          · exact ih.alts rid (idx + 1) as s.pos (x.2.2.2.1.reset s.pos) (fun a' ha' => hacts a' (List.mem_cons_of_mem _ ha')) rfl hi
  case items =>
    intro its cut oks s hs
    cases its with
    | nil => simp only [execItems]; exact hs
    | cons it its =>
      have h1 := (ih.item it.item s hs).2.2
      generalize hx : execItem prog w fuel it.item s = x at h1
      rw [execItems_cons hx]
      apply ite_ind (Q := (CacheOK <| st5 ·)) <;> intro _
      · exact ih.items its true _ s hs
      · apply ite_ind (Q := (CacheOK <| st5 ·)) <;> intro _
        · apply ite_ind (Q := (CacheOK <| st5 ·)) <;> intro _
          · exact ih.items its cut _ s hs
          · exact hs
        · apply ite_ind (Q := (CacheOK <| st5 ·)) <;> intro _
          · exact h1
          · apply ite_ind (Q := (CacheOK <| st5 ·)) <;> intro _
            · exact ih.items its cut _ _ h1
            · exact h1
  case item =>
    intro it s hs
    cases it with
    | call p => simp only [execItem]; exact ih.prim p s hs
    | seqAlts ps => simp only [execItem]; exact ih.seqAlts ps s.pos s rfl hs
    | repeated p =>
      have h1 := ih.rep p s.pos 0 s hs
      generalize hx : execRepeat prog w fuel p s.pos 0 s = x at h1
      rw [execItem_repeated hx]
      apply ite_ind <;> intro _
      · exact .abort ‹_› h1.1
      · apply ite_ind <;> intro _
        · exact .ofFail (h1.2.2 ‹_› (Bool.eq_false_iff.mpr ‹_›)) h1.1
        · exact .ofOk rfl h1.1
    | gathered elem sep =>
      have h1 := ih.seqAlts [elem] s.pos s rfl hs
      generalize hx : execSeqAlts prog w fuel [elem] s.pos s = x at h1
      have h2 := ih.sepRep elem sep x.2.pos 0 x.2 h1.2.2
      generalize hy : execSepRepeat prog w fuel elem sep x.2.pos 0 x.2 = y at h2
      rw [execItem_gathered hx hy]
      apply ite_ind <;> intro _
      · exact h1
      · apply ite_ind <;> intro _
        · apply ite_ind <;> intro _
          · exact .abort ‹_› h2
          · exact .ofOk rfl h2
        · exact .ofFail rfl h1.2.2
    | posLook p =>
      have h1 := ih.prim p s hs
      generalize hx : execPrim prog w fuel p s = x at h1
      rw [execItem_posLook hx]
      apply ite_ind <;> intro _
      · exact h1
      · apply ite_ind <;> intro _
        · exact .ofOk rfl h1.2.2
        · exact .ofFail rfl h1.2.2
    | negLook p =>
      have h1 := ih.prim p s hs
      generalize hx : execPrim prog w fuel p s = x at h1
      rw [execItem_negLook hx]
      apply ite_ind <;> intro _
      · exact h1
      · apply ite_ind <;> intro _
        · exact .ofFail rfl h1.2.2
        · exact .ofOk rfl h1.2.2
    | forced p what =>
      have h1 := ih.prim p s hs
      generalize hx : execPrim prog w fuel p s = x at h1
      rw [execItem_forced hx]
      apply ite_ind <;> intro _
      · exact h1
      · exact .abort rfl h1.2.2
    | setCut => simp only [execItem]; exact .ofOk rfl hs
    | guardInvalid =>
      simp only [execItem]
      apply ite_ind <;> intro _
      · exact .ofOk rfl hs
      · exact .ofFail rfl hs
  case rep =>
    intro p mark n s hs
    have h1 := ih.prim p s hs
    generalize hx : execPrim prog w fuel p s = x at h1
    rw [execRepeat_succ hx]
    by_cases ha : x.1.isAbort = true
    · rw [if_pos ha]; exact ⟨h1.2.2, Nat.le_refl _, fun _ h => absurd h (by simp [ha])⟩
    · rw [if_neg ha]
      by_cases hok : x.1.isOk = true
      · have h2 := ih.rep p x.2.pos (n + 1) x.2 h1.2.2
        rw [if_pos hok]; exact ⟨h2.1, Nat.le_of_succ_le h2.2.1, fun hn => absurd (Nat.lt_of_lt_of_eq h2.2.1 hn) (Nat.lt_irrefl n)⟩
      · rw [if_neg hok]; exact ⟨h1.2.2, Nat.le_refl _, fun _ _ => rfl⟩
  case sepRep =>
    intro e sp mark n s hs
    have h1 := ih.prim sp s hs
    generalize hx : execPrim prog w fuel sp s = x at h1
    have h2 := ih.seqAlts [e] x.2.pos x.2 rfl h1.2.2
    generalize hy : execSeqAlts prog w fuel [e] x.2.pos x.2 = y at h2
    rw [execSepRepeat_succ hx hy]
    apply ite_ind (Q := (CacheOK <| st3 ·)) <;> intro _
    · exact h1.2.2
    · apply ite_ind (Q := (CacheOK <| st3 ·)) <;> intro _
      · apply ite_ind (Q := (CacheOK <| st3 ·)) <;> intro _
        · exact h2.2.2
        · apply ite_ind (Q := (CacheOK <| st3 ·)) <;> intro _
          · exact ih.sepRep e sp y.2.pos (n + 1) y.2 h2.2.2
          · exact h2.2.2
      · exact h1.2.2

theorem consInv (w : Array RTok) (hnf : NoFalsy prog) : ∀ fuel, ConsInv prog w fuel
  | 0 => consInv_zero w
  | fuel + 1 => consInv_succ w hnf fuel (consInv w hnf fuel)

theorem cacheOK_init (n : Nat) (b v : Bool) : CacheOK (St.init n b v) := fun p id e h => by
  rw [St.init, cacheGet_replicate] at h; cases h

def noFalsyB (prog : Prog) : Bool :=
  prog.all (fun r => match r.body with | .alts as _ _ => as.all (fun a => actNF a.act) | _ => true)

theorem all_rules {prog : Prog} {f : Rule → Bool} (h : prog.all f = true) {id : Nat} {r : Rule} (hr : prog[id]? = some r) : f r = true := by
  obtain ⟨hlt, rfl⟩ := Array.getElem?_eq_some_iff.mp hr
  exact Array.all_eq_true.mp h id hlt

theorem noFalsy_of_B (prog : Prog) (h : noFalsyB prog = true) : NoFalsy prog := fun id r hr => by
  have := all_rules h hr
  cases hb : r.body <;> simp_all [BodyNF]

end XV.Peg
