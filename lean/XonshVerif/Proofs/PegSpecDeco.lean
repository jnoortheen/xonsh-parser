/-
  C17 - the declarative PEG semantics does not look at rule decorators: programs with the same rule bodies (with or without
  `(memo)` flags, `logger`, ...) have the same derivations: those over one program are closed under the rules that generate those over the other.
-/
import XonshVerif.Proofs.PegSpecInd
namespace XV.Peg
variable {P Q : Prog} {w : Array RTok}

/-- two programs with the same rule bodies (decorators - `memoize`, `logger`, `memoize_left_rec` - may differ) -/
def SameBodies (P Q : Prog) : Prop := ∀ id : Nat, (P[id]?).map Rule.body = (Q[id]?).map Rule.body

theorem SameBodies.symm (h : SameBodies P Q) : SameBodies Q P := fun id => (h id).symm

theorem SameBodies.lookup (h : SameBodies P Q) {id : Nat} {r : Rule} (hr : P[id]? = some r) : ∃ r', Q[id]? = some r' ∧ r'.body = r.body := by
  have := h id
  rw [hr] at this
  cases hq : Q[id]? with
  | none => rw [hq] at this; cases this
  | some r' => rw [hq] at this; simp only [Option.map_some, Option.some.injEq] at this; exact ⟨r', rfl, this.symm⟩

/-- the derivations over `Q` are closed under the rules that generate those over `P`: constructor for constructor -/
theorem transport_holds (hb : SameBodies P Q) :
    SHolds P w (SPrim Q w) (SRule Q w) (SBody Q w) (SSeq Q w) (SAlts Q w) (SItems Q w) (SItem Q w) (SStar Q w) (SSep Q w) := by
  apply SHolds.induct
  case rule_mk =>
    intro id p r rule hr _ h
    obtain ⟨r', hq, hbody⟩ := hb.lookup hr
    exact .mk id p r r' hq (hbody ▸ h)
  case prim_hit => exact .hit
  case prim_miss => exact .miss
  case prim_rule => exact fun id p r _ => .rule id p r
  case body_seqAlts => exact fun ps p r _ => .seqAlts ps p r
  case body_alts => exact fun as wo ul p r _ => .alts as wo ul p r
  case seq_nil => exact .nil
  case seq_hit => exact fun q qs p e _ => .hit q qs p e
  case seq_miss => exact fun q qs p r _ _ => .miss q qs p r
  case alts_nil => exact .nil
  case alts_hit => exact fun a as p e c _ => .hit a as p e c
  case alts_cut => exact fun a as p _ => .cut a as p
  case alts_miss => exact fun a as p r _ _ => .miss a as p r
  case items_nil => exact .nil
  case items_setCut => exact fun o its p c r c' _ => .setCut o its p c r c'
  case items_ok => exact fun it its p q c r c' hne _ _ => .ok it its p q c r c' hne
  case items_skip => exact fun it its p c r c' hne ho _ _ => .skip it its p c r c' hne ho
  case items_fail => exact fun it its p c hne ho _ => .fail it its p c hne ho
  case item_call => exact fun q p r _ => .call q p r
  case item_seqAlts => exact fun ps p r _ => .seqAlts ps p r
  case item_plusOk => exact fun q p n e _ => .plusOk q p n e
  case item_plusFail => exact fun q p _ => .plusFail q p
  case item_gatherOk => exact fun el sp p q n e _ _ => .gatherOk el sp p q n e
  case item_gatherFail => exact fun el sp p _ => .gatherFail el sp p
  case item_posOk => exact fun q p e _ => .posOk q p e
  case item_posFail => exact fun q p _ => .posFail q p
  case item_negOk => exact fun q p _ => .negOk q p
  case item_negFail => exact fun q p e _ => .negFail q p e
  case item_forced => exact fun q what p e _ => .forced q what p e
  case star_stop => exact fun q p _ => .stop q p
  case star_step => exact fun q p e n e' _ _ => .step q p e n e'
  case sep_stopSep => exact fun el sp p _ => .stopSep el sp p
  case sep_stopElem => exact fun el sp p q _ _ => .stopElem el sp p q
  case sep_step => exact fun el sp p q r n e _ _ _ => .step el sp p q r n e

theorem SPrim.transport (hb : SameBodies P Q) {x : Prim} {p : Nat} {r : Option Nat} (h : SPrim P w x p r) : SPrim Q w x p r :=
  (transport_holds hb).prim h
theorem SRule.transport (hb : SameBodies P Q) {id : Nat} {p : Nat} {r : Option Nat} (h : SRule P w id p r) : SRule Q w id p r :=
  (transport_holds hb).rule h
theorem SBody.transport (hb : SameBodies P Q) {b : Body} {p : Nat} {r : Option Nat} (h : SBody P w b p r) : SBody Q w b p r :=
  (transport_holds hb).body h
theorem SSeq.transport (hb : SameBodies P Q) {ps : List Prim} {p : Nat} {r : Option Nat} (h : SSeq P w ps p r) : SSeq Q w ps p r :=
  (transport_holds hb).seq h
theorem SAlts.transport (hb : SameBodies P Q) {as : List Alt} {p : Nat} {r : Option Nat} (h : SAlts P w as p r) : SAlts Q w as p r :=
  (transport_holds hb).alts h
theorem SItems.transport (hb : SameBodies P Q) {its : List AltItem} {p : Nat} {c : Bool} {r : Option Nat} {c' : Bool}
    (h : SItems P w its p c r c') : SItems Q w its p c r c' :=
  (transport_holds hb).items h
theorem SItem.transport (hb : SameBodies P Q) {it : Item} {p : Nat} {r : Option Nat} (h : SItem P w it p r) : SItem Q w it p r :=
  (transport_holds hb).item h
theorem SStar.transport (hb : SameBodies P Q) {q : Prim} {p k e : Nat} (h : SStar P w q p k e) : SStar Q w q p k e :=
  (transport_holds hb).star h
theorem SSep.transport (hb : SameBodies P Q) {el sp : Prim} {p k e : Nat} (h : SSep P w el sp p k e) : SSep Q w el sp p k e :=
  (transport_holds hb).sep h

theorem srule_iff_of_sameBodies (hb : SameBodies P Q) (id p : Nat) (r : Option Nat) : SRule P w id p r ↔ SRule Q w id p r :=
  ⟨SRule.transport hb, SRule.transport hb.symm⟩

def dropMemo (P : Prog) : Prog := P.map (fun r => { r with deco := match r.deco with | .memo => .none | d => d })

theorem dropMemo_sameBodies (P : Prog) : SameBodies P (dropMemo P) := by
  intro id
  simp only [dropMemo, Array.getElem?_map, Option.map_map]
  cases P[id]? <;> rfl
end XV.Peg
