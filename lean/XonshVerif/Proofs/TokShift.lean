/-
  C14 (tokenizer level) - line-number shift invariance.  The tokenizer never LOOKS at `lnum`, it only copies it into
  coordinates: running any of its functions on a state whose line counter (and the start coordinates of its open
  strings) are `k` higher gives the same tokens, state and error with every line coordinate `k` higher:
  `f (shSt k s) = emap (shErr k) (shX k) (f s)`.
  `shX k` shifts a result of type X, X spelled by its components: T tokens, O an optional token, S state, E error,
  B a Bool carried along; `shStmt`, `shLH` are for the results of `nextStatement`, `lineHead`.
-/
import XonshVerif.Model.Tokenize
namespace XV.Tz
open XV XV.Rx

def shP (k : Nat) (p : Pos) : Pos := ⟨p.line + k, p.col⟩
def shTok (k : Nat) (t : Tok5) : Tok5 := { t with start := shP k t.start, stop := shP k t.stop }
def shProg (k : Nat) (p : EndProg) : EndProg := { p with start := shP k p.start }
def shSt (k : Nat) (s : TState) : TState := { s with lnum := s.lnum + k, endProgs := s.endProgs.map (shProg k) }
def shErr (k : Nat) : Err → Err
  | .tokenError m p => .tokenError m (shP k p)
  | .indentationError l p => .indentationError (l + k) p
  | .reFuel => .reFuel
  | .loopFuel => .loopFuel

def shStmt (k : Nat) (r : List Tok5 × TState × StmtAction) : List Tok5 × TState × StmtAction :=
  (r.1.map (shTok k), shSt k r.2.1, r.2.2)
def shOT (k : Nat) (r : Option Tok5 × TState) : Option Tok5 × TState := (r.1.map (shTok k), shSt k r.2)
def shTS (k : Nat) (r : List Tok5 × TState) : List Tok5 × TState := (r.1.map (shTok k), shSt k r.2)
def shTSB (k : Nat) (r : List Tok5 × TState × Bool) : List Tok5 × TState × Bool := (r.1.map (shTok k), shSt k r.2.1, r.2.2)
def shTSBB (k : Nat) (r : List Tok5 × TState × Bool × Bool) : List Tok5 × TState × Bool × Bool :=
  (r.1.map (shTok k), shSt k r.2.1, r.2.2)
def shET (k : Nat) (r : Err × List Tok5) : Err × List Tok5 := (shErr k r.1, r.2.map (shTok k))
def shLH (k : Nat) (r : TState × List Tok5 × Bool × Bool) : TState × List Tok5 × Bool × Bool :=
  (shSt k r.1, r.2.1.map (shTok k), r.2.2)

/-- a result mapped on both sides -/
def emap {ε ε' α α' : Type} (fe : ε → ε') (fa : α → α') : Except ε α → Except ε' α'
  | .error e => .error (fe e)
  | .ok a => .ok (fa a)

@[simp] theorem emap_ok {ε ε' α α' : Type} (fe : ε → ε') (fa : α → α') (a : α) : emap fe fa (.ok a) = .ok (fa a) := rfl
@[simp] theorem emap_error {ε ε' α α' : Type} (fe : ε → ε') (fa : α → α') (e : ε) : emap fe fa (.error e : Except ε α) = .error (fe e) := rfl

@[simp] theorem shSt_line (k s) : (shSt k s).line = s.line := rfl
@[simp] theorem shSt_pos (k s) : (shSt k s).pos = s.pos := rfl
@[simp] theorem shSt_max (k s) : (shSt k s).max = s.max := rfl
@[simp] theorem shSt_parenlev (k s) : (shSt k s).parenlev = s.parenlev := rfl
@[simp] theorem shSt_continued (k s) : (shSt k s).continued = s.continued := rfl
@[simp] theorem shSt_indents (k s) : (shSt k s).indents = s.indents := rfl
@[simp] theorem shSt_lnum (k s) : (shSt k s).lnum = s.lnum + k := rfl
@[simp] theorem shSt_commentLine (k s) : (shSt k s).commentLine = s.commentLine := rfl
@[simp] theorem shSt_endProgs (k s) : (shSt k s).endProgs = s.endProgs.map (shProg k) := rfl
@[simp] theorem shProg_mode (k p) : (shProg k p).mode = p.mode := rfl
@[simp] theorem shProg_pat (k p) : (shProg k p).pat = p.pat := rfl
@[simp] theorem shProg_text (k p) : (shProg k p).text = p.text := rfl
@[simp] theorem shProg_contline (k p) : (shProg k p).contline = p.contline := rfl
@[simp] theorem shProg_quote (k p) : (shProg k p).quote = p.quote := rfl
@[simp] theorem shProg_start (k p) : (shProg k p).start = shP k p.start := rfl
@[simp] theorem reFuel_sh (k s) : reFuel (shSt k s) = reFuel s := rfl

@[simp] theorem inMiddle_sh (k s) : (shSt k s).inMiddle = s.inMiddle := by
  unfold TState.inMiddle; simp only [shSt_endProgs]; cases s.endProgs <;> simp
@[simp] theorem inBraces_sh (k s) : (shSt k s).inBraces = s.inBraces := by
  unfold TState.inBraces; simp only [shSt_endProgs]; cases s.endProgs <;> simp
@[simp] theorem inColon_sh (k s) : (shSt k s).inColon = s.inColon := by
  unfold TState.inColon; simp only [shSt_endProgs]; cases s.endProgs <;> simp
@[simp] theorem inMultiLineString_sh (k s) : (shSt k s).inMultiLineString = s.inMultiLineString := by
  unfold TState.inMultiLineString; simp only [shSt_endProgs]; cases s.endProgs <;> rfl
@[simp] theorem atParenlev_sh (k s) : (shSt k s).atParenlev = s.atParenlev := by
  unfold TState.atParenlev; simp only [shSt_endProgs, shSt_parenlev]; cases s.endProgs <;> rfl
@[simp] theorem inContinuedString_sh (k s) : (shSt k s).inContinuedString = s.inContinuedString := by
  unfold TState.inContinuedString; simp only [shSt_endProgs, shSt_line, List.isEmpty_map]; rfl

theorem popMode_sh (k : Nat) (s : TState) (e : Option Pos) :
    (shSt k s).popMode (e.map (shP k)) = shSt k (s.popMode e) := by
  unfold TState.popMode
  simp only [shSt_endProgs]
  cases h : s.endProgs with
  | nil => simp [shSt, h]
  | cons p rest =>
    cases rest with
    | nil => cases e <;> simp [shSt, h]
    | cons q more => cases e <;> simp [shSt, h, shProg]

theorem popMode_none_sh (k : Nat) (s : TState) : (shSt k s).popMode none = shSt k (s.popMode none) := popMode_sh k s none

theorem addProg_sh (k : Nat) (s : TState) (a b : Nat) (m : Mode) (pt : PatKind) (q : List Nat) :
    (shSt k s).addProg a b m pt q = shSt k (s.addProg a b m pt q) := by
  simp [TState.addProg, shSt, shProg, shP]

theorem progToken_sh (k : Nat) (s : TState) (e : Nat) (ty : TT) (hne : s.endProgs ≠ []) :
    (shSt k s).progToken e ty = (shTok k (s.progToken e ty).1, shSt k (s.progToken e ty).2) := by
  unfold TState.progToken
  simp only [shSt_endProgs]
  cases h : s.endProgs with
  | nil => exact absurd h hne
  | cons p rest => simp [shSt, h, shTok, shP, shProg]

/-- both sides branch on the same condition -/
theorem ite_both {α β : Type} {c : Prop} [Decidable c] (f : α → β) {a b : β} {a' b' : α}
    (h1 : c → a = f a') (h2 : ¬c → b = f b') : (if c then a else b) = f (if c then a' else b') := by
  split
  · rename_i h; exact h1 h
  · rename_i h; exact h2 h

theorem ite_both' {β : Type} {c : Prop} [Decidable c] {a b a' b' : β}
    (h1 : c → a = a') (h2 : ¬c → b = b') : (if c then a else b) = (if c then a' else b') := by
  split
  · rename_i h; exact h1 h
  · rename_i h; exact h2 h

theorem dedents_sh (k col lnum pos : Nat) (line : List Nat) : ∀ (fuel : Nat) (ind : List Nat) (acc : List Tok5),
    dedents col (lnum + k) pos line fuel ind (acc.map (shTok k)) =
      emap (shErr k) (fun r => (r.1, r.2.map (shTok k))) (dedents col lnum pos line fuel ind acc)
  | 0, ind, acc => rfl
  | fuel + 1, ind, acc => by
    rw [dedents, dedents]
    cases ind.getLast? with
    | none => rfl
    | some top =>
      refine ite_both _ (fun _ => ite_both _ (fun _ => rfl) fun _ => ?_) fun _ => rfl
      have ih := dedents_sh k col lnum pos line fuel ind.dropLast (acc ++ [⟨.DEDENT, [], ⟨lnum, pos⟩, ⟨lnum, pos⟩, line⟩])
      rwa [List.map_append] at ih

theorem mkTok_sh (k : Nat) (s : TState) (a b : Nat) (ty : TT) : mkTok (shSt k s) a b ty = shTok k (mkTok s a b ty) := rfl

theorem nextStatement_sh (k : Nat) (P : Pats) (s : TState) :
    nextStatement P (shSt k s) = emap (shErr k) (shStmt k) (nextStatement P s) := by
  unfold nextStatement
  obtain ⟨lnum, pl, c, ind, line, pos, max, eps, cl⟩ := s
  dsimp only [shSt]
  -- before anything is compared: the measured column and position occur in every token
  generalize measureIndent P.tabsize line (max + 1) 0 pos = mi
  refine ite_both _ (fun _ => rfl) (fun _ => ?_)
  refine ite_both _ (fun _ => rfl) (fun _ => ?_)
  refine ite_both _ (fun _ => ?_) (fun _ => ?_)
  · exact ite_both _ (fun _ => rfl) (fun _ => rfl)
  · by_cases hc : mi.1 > ind.getLast?.getD 0
    · simp only [hc, if_true]
      have := dedents_sh k mi.1 lnum mi.2 line.toList ((ind ++ [mi.1]).length + 1) (ind ++ [mi.1])
        [⟨.INDENT, line.toList.take mi.2, ⟨lnum, 0⟩, ⟨lnum, mi.2⟩, line.toList⟩]
      simp only [List.map_cons, List.map_nil, shTok, shP] at this
      rw [this]
      cases dedents mi.1 lnum mi.2 line.toList ((ind ++ [mi.1]).length + 1) (ind ++ [mi.1])
        [⟨.INDENT, line.toList.take mi.2, ⟨lnum, 0⟩, ⟨lnum, mi.2⟩, line.toList⟩] <;> rfl
    · simp only [hc, if_false]
      have := dedents_sh k mi.1 lnum mi.2 line.toList (ind.length + 1) ind []
      simp only [List.map_nil] at this
      rw [this]
      cases dedents mi.1 lnum mi.2 line.toList (ind.length + 1) ind [] <;> rfl

theorem specialAction_sh (k : Nat) (s : TState) (a b : Nat) :
    specialAction (shSt k s) a b = shSt k (specialAction s a b) := by
  unfold specialAction
  rw [shSt_line, inBraces_sh, atParenlev_sh, shSt_parenlev, shSt_lnum]
  have hp : (shSt k s).popMode (some ⟨s.lnum + k, b⟩) = shSt k (s.popMode (some ⟨s.lnum, b⟩)) := popMode_sh k s (some ⟨s.lnum, b⟩)
  rw [hp]
  refine ite_both (shSt k) (fun _ => rfl) (fun _ => ?_)
  refine ite_both (shSt k) (fun _ => ?_) (fun _ => ?_)
  · by_cases hb : (s.inBraces && s.atParenlev) = true
    · simp only [hb, if_true]; rfl
    · simp only [hb, Bool.false_eq_true, if_false]; rfl
  · exact ite_both (shSt k) (fun _ => addProg_sh k s (a + 1) b _ _ _) (fun _ => rfl)

theorem pseudoAction_sh (k : Nat) (s : TState) (g : String) (a b : Nat) :
    pseudoAction (shSt k s) g a b = emap (shErr k) (shOT k) (pseudoAction s g a b) := by
  unfold pseudoAction
  -- by `rw`: `simp`, rewriting inside this chain of `if g = "..."`, checks the `Decidable` instance of every string comparison again
  rw [shSt_line, shSt_parenlev, shSt_lnum, mkTok_sh, addProg_sh, addProg_sh, specialAction_sh]
  simp only [apply_ite (emap (shErr k) (shOT k))]
  rfl

theorem nextPseudoMatches_sh (k : Nat) (E : Env) (P : Pats) (s : TState) :
    nextPseudoMatches E P (shSt k s) = emap (shErr k) (shOT k) (nextPseudoMatches E P s) := by
  unfold nextPseudoMatches
  simp only [shSt_pos, shSt_max, inMiddle_sh, reFuel_sh, shSt_line]
  refine ite_both _ (fun _ => rfl) (fun _ => ?_)
  cases matchBranches E (reFuel s) P.pseudo s.line s.pos with
  | inr u => rfl
  | inl o =>
    cases o with
    | none => rfl
    | some ge => exact pseudoAction_sh k { s with pos := ge.2 } ge.1 s.pos ge.2

theorem emitMiddle_sh (k : Nat) (s : TState) (m : Nat) (prog : EndProg) (hne : s.endProgs ≠ []) :
    emitMiddle (shSt k s) m (shProg k prog) = shTS k (emitMiddle s m prog) := by
  unfold emitMiddle
  simp only [shSt_pos, shProg_text, progToken_sh k s m _ hne]
  exact ite_both (shTS k) (fun _ => rfl) (fun _ => rfl)

theorem emitMiddle_lnum (s : TState) (m : Nat) (prog : EndProg) : (emitMiddle s m prog).2.lnum = s.lnum := by
  unfold emitMiddle TState.progToken
  split
  · cases s.endProgs <;> rfl
  · rfl

theorem emitMiddle_line (s : TState) (m : Nat) (prog : EndProg) : (emitMiddle s m prog).2.line = s.line := by
  unfold emitMiddle TState.progToken
  split
  · cases s.endProgs <;> rfl
  · rfl

theorem rbrace_step (k : Nat) (t : TState) (e : Nat) :
    (({ (shSt k t) with parenlev := t.parenlev - 1 }).popMode none).popMode (some ⟨t.lnum + k, e⟩) =
      shSt k ((({ t with parenlev := t.parenlev - 1 }).popMode none).popMode (some ⟨t.lnum, e⟩)) := by
  have h1 : ({ (shSt k t) with parenlev := t.parenlev - 1 } : TState) = shSt k { t with parenlev := t.parenlev - 1 } := rfl
  rw [h1, popMode_none_sh]
  exact popMode_sh k _ (some ⟨t.lnum, e⟩)

theorem handleFstringProgs_sh (k : Nat) (E : Env) (P : Pats) (s : TState) :
    handleFstringProgs E P (shSt k s) = emap (shErr k) (shTSB k) (handleFstringProgs E P s) := by
  unfold handleFstringProgs
  rw [shSt_endProgs]
  cases h : s.endProgs with
  | nil => rfl
  | cons prog rest =>
    have hne : s.endProgs ≠ [] := by rw [h]; simp
    rw [List.map_cons]
    -- `-zeta`: the `let`s stay until a branch is chosen; unfolded they make the goal many times larger, and every step pays for it
    dsimp -zeta only [reFuel_sh, shSt_line, shSt_pos, shProg_pat, shProg_quote]
    cases matchBranches E (reFuel s) (patBranches P prog.pat) s.line s.pos with
    | inr u => rfl
    | inl o =>
      cases o with
      | none => rfl
      | some ge =>
        obtain ⟨group, e⟩ := ge
        refine ite_both _ (fun _ => rfl) (fun _ => ?_)
        refine ite_both _ (fun _ => ?_) (fun _ => ?_)
        · simp only [emitMiddle_sh k s _ prog hne, shTS, shSt_lnum, shSt_pos, emap_ok, shTSB, List.map_append, List.map_cons,
            List.map_nil, popMode_none_sh]
          rfl
        · refine ite_both _ (fun _ => ?_) (fun _ => ?_) <;>
            simp only [emitMiddle_sh k s _ prog hne, shTS, shSt_lnum, shSt_pos, shSt_parenlev, emap_ok, shTSB, List.map_append,
              List.map_cons, List.map_nil]
          · rfl
          · have := rbrace_step k (emitMiddle s (e - 1) prog).2 e
            simp only [shSt_lnum, shSt_pos] at this
            rw [this]
            rfl

theorem endProgStep_sh (k : Nat) (E : Env) (P : Pats) (s : TState) (prog : EndProg) (hne : s.endProgs ≠ []) :
    endProgStep E P (shSt k s) (shProg k prog) = emap (shErr k) (shTSBB k) (endProgStep E P s prog) := by
  unfold endProgStep
  simp only [inMiddle_sh, inColon_sh, reFuel_sh, shSt_line, shSt_pos, shProg_pat, handleFstringProgs_sh]
  refine ite_both _ (fun _ => ?_) (fun _ => ?_)
  · cases handleFstringProgs E P s with
    | error e => rfl
    | ok r => rfl
  · cases matchBranches E (reFuel s) (patBranches P prog.pat) s.line s.pos with
    | inr u => rfl
    | inl o =>
      cases o with
      | none => rfl
      | some ge =>
        simp only [progToken_sh k s ge.2 _ hne]
        rw [popMode_none_sh]
        rfl

theorem endProgFinish_sh (k : Nat) (ts : List Tok5) (s : TState) (m early : Bool) :
    endProgFinish (ts.map (shTok k)) (shSt k s) m early = emap (shErr k) (shTS k) (endProgFinish ts s m early) := by
  unfold endProgFinish
  simp only [inBraces_sh, shSt_endProgs, List.isEmpty_map, shSt_pos, inMultiLineString_sh, inContinuedString_sh, shSt_line, shSt_max]
  refine ite_both _ (fun _ => rfl) (fun _ => ?_)
  refine ite_both _ (fun _ => rfl) (fun hnb => ?_)
  refine ite_both _ (fun _ => rfl) (fun _ => ?_)
  refine ite_both _ (fun _ => ?_) (fun _ => ?_)
  · cases h : s.endProgs with
    | nil => rfl
    | cons p rest => simp only [List.map_cons, emap_ok, shTS, shSt, h, shProg]
  · refine ite_both _ (fun _ => ?_) (fun _ => rfl)
    cases h : s.endProgs with
    | nil => simp [h] at hnb
    | cons p rest => rfl

theorem handleEndProgs_sh (k : Nat) (E : Env) (P : Pats) (s : TState) :
    handleEndProgs E P (shSt k s) = emap (shErr k) (shTS k) (handleEndProgs E P s) := by
  unfold handleEndProgs
  cases h : s.endProgs with
  | nil => simp only [shSt_endProgs, h, List.map_nil]; rfl
  | cons prog rest =>
    have hne : s.endProgs ≠ [] := by rw [h]; simp
    simp only [shSt_endProgs, h, List.map_cons, shSt_pos, shSt_line, inBraces_sh]
    refine ite_both _ (fun _ => rfl) (fun _ => ?_)
    refine ite_both _ (fun _ => rfl) (fun _ => ?_)
    rw [endProgStep_sh k E P s prog hne]
    cases endProgStep E P s prog with
    | error e => rfl
    | ok r =>
      obtain ⟨ts, s', m, early⟩ := r
      exact endProgFinish_sh k ts s' m early

/-- The scan loop on a state whose line counter is `k` higher, with tokens `pre` in front of the accumulator (the loop only
    ever appends to it): the same result `k` lines down, after `pre`. -/
theorem scanLine_after (k : Nat) (pre : List Tok5) (E : Env) (P : Pats) : ∀ (fuel : Nat) (s : TState) (acc : List Tok5),
    scanLine E P fuel (shSt k s) (pre ++ acc.map (shTok k)) =
      emap (fun r => (shErr k r.1, pre ++ r.2.map (shTok k))) (fun r => (shSt k r.1, pre ++ r.2.map (shTok k))) (scanLine E P fuel s acc) := by
  intro fuel
  induction fuel with
  | zero => exact fun _ _ => rfl
  | succ fuel ih =>
    intro s acc
    rw [scanLine, scanLine, shSt_pos, shSt_max, handleEndProgs_sh]
    refine ite_both _ (fun _ => ?_) (fun _ => rfl)
    cases handleEndProgs E P s with
    | error e => rfl
    | ok r =>
      obtain ⟨ts1, s1⟩ := r
      simp only [emap_ok, shTS, nextPseudoMatches_sh]
      cases nextPseudoMatches E P s1 with
      | error e => simp only [emap_error, List.map_append, List.append_assoc]
      | ok r2 =>
        obtain ⟨ot, s2⟩ := r2
        -- each time the induction hypothesis at the new accumulator, which is the goal's once the shift is pushed through `++`
        cases ot with
        | some t =>
          refine (congrArg (scanLine E P fuel _) ?_).trans (ih s2 (acc ++ ts1 ++ [t]))
          simp only [List.map_append, List.map_cons, List.map_nil, List.append_assoc]
        | none =>
          refine ite_both _ (fun _ => ?_) (fun _ => ?_)
          · refine (congrArg (scanLine E P fuel _) ?_).trans (ih { s2 with pos := s2.pos + 1 } _)
            simp only [List.map_append, List.map_cons, List.map_nil, List.append_assoc]
            rfl
          · refine (congrArg (scanLine E P fuel _) ?_).trans (ih s2 (acc ++ ts1))
            simp only [List.map_append, List.append_assoc]

theorem lineHead_sh (k : Nat) (E : Env) (P : Pats) (s : TState) :
    lineHead E P (shSt k s) = emap (shErr k) (shLH k) (lineHead E P s) := by
  unfold lineHead
  have hns := nextStatement_sh k P s
  have hep := handleEndProgs_sh k E P { s with continued := false }
  obtain ⟨lnum, pl, c, ind, line, pos, max, eps, cl⟩ := s
  dsimp only [shSt] at hns hep ⊢
  simp only [List.isEmpty_map]
  refine ite_both _ (fun _ => ?_) (fun _ => ?_)
  · rw [hep]
    cases handleEndProgs E P ⟨lnum, pl, false, ind, line, pos, max, eps, cl⟩ with
    | error e => rfl
    | ok r => rfl
  · refine ite_both _ (fun _ => ?_) (fun _ => ?_)
    · rw [hns]
      cases nextStatement P ⟨lnum, pl, c, ind, line, pos, max, eps, cl⟩ with
      | error e => rfl
      | ok r =>
        obtain ⟨ts, s', a⟩ := r
        cases a <;> rfl
    · exact ite_both _ (fun _ => rfl) (fun _ => rfl)

theorem moveNextLine_sh (k : Nat) (s : TState) (l : List Nat) : (shSt k s).moveNextLine l = shSt k (s.moveNextLine l) := by
  simp only [TState.moveNextLine, shSt]
  congr 1
  omega

theorem nextEndTokens_sh (k : Nat) (ll : List Nat) (lc : Bool) (s : TState) (h1 : 1 ≤ s.lnum) :
    nextEndTokens ll lc (shSt k s) = (nextEndTokens ll lc s).map (shTok k) := by
  unfold nextEndTokens
  have hl : s.lnum + k - 1 = s.lnum - 1 + k := by omega
  simp only [shSt_lnum, shSt_indents, hl]
  cases ll.getLast? with
  | none => simp [shTok, shP, Function.comp_def]
  | some c =>
    simp only []
    split <;> simp [shTok, shP, Function.comp_def]

end XV.Tz
