/-
  C15 (verbose half) — simulation between a run with verbose = false and a run with verbose = true:
  the two runs stay equal on everything but the flag and the number of reset calls, provided every
  failure entry of a left-recursive rule in the cache carries its own position as end mark (CacheInv),
  which both wrappers maintain.  An instance of `exec_sim`: every state operation keeps `Sim` (`Sim.map`: none reads or writes
  the flag or the counter) and `CacheInv` (`CacheInv.put`), and at the one place where the runs part (a cached failure of a
  left-recursive rule) `CacheInv` makes the missing reset a no-op.
-/
import XonshVerif.Proofs.PegSim
namespace XV.Peg

structure Sim (a b : St) : Prop where
  pos : a.pos = b.pos
  invalid : a.invalid = b.invalid
  cache : a.cache = b.cache
  fetched : a.fetched = b.fetched
  fired : a.fired = b.fired
  assumed : a.assumed = b.assumed
  peeks : a.peeks = b.peeks
  nexts : a.nexts = b.nexts
  va : a.verbose = false
  vb : b.verbose = true

/-- every failure entry of a left-recursive rule is stored with end mark = its own position
    (`self._cache[key] = None, mark`): this is why skipping the reset in the verbose path is harmless -/
def CacheInv (prog : Prog) (s : St) : Prop :=
  ∀ pos id e r, cacheGet s.cache pos id = some (.fail e) → prog[id]? = some r → r.deco = .leftrec → e = pos

variable {prog : Prog}

/-- what `Sim` compares: everything but the flag and the number of `reset` calls -/
def St.obs (s : St) : St := { s with verbose := false, resets := 0 }

theorem Sim.iff_obs {a b : St} : Sim a b ↔ a.obs = b.obs ∧ a.verbose = false ∧ b.verbose = true := by
  obtain ⟨p, i, v, c, f, fi, as, r, pk, nx⟩ := a
  obtain ⟨p', i', v', c', f', fi', as', r', pk', nx'⟩ := b
  simp only [St.obs, St.mk.injEq, true_and]
  exact ⟨fun ⟨h1, h2, h3, h4, h5, h6, h7, h8, h9, h10⟩ => ⟨⟨h1, h2, h3, h4, h5, h6, h7, h8⟩, h9, h10⟩,
    fun ⟨⟨h1, h2, h3, h4, h5, h6, h7, h8⟩, h9, h10⟩ => ⟨h1, h2, h3, h4, h5, h6, h7, h8, h9, h10⟩⟩

/-- a state operation that neither reads nor writes what `Sim` ignores keeps `Sim` (for the operations of the
    interpreter both conditions hold by computation) -/
theorem Sim.map {a b : St} (h : Sim a b) (f : St → St) (hf : ∀ s, (f s).obs = (f s.obs).obs := by intro; rfl)
    (hv : ∀ s, (f s).verbose = s.verbose := by intro; rfl) : Sim (f a) (f b) := by
  obtain ⟨h1, h2, h3⟩ := Sim.iff_obs.mp h
  exact Sim.iff_obs.mpr ⟨by rw [hf a, hf b, h1], (hv a).trans h2, (hv b).trans h3⟩

theorem Sim.cache_eq {a b : St} (h : Sim a b) : cacheGet a.cache a.pos = cacheGet b.cache b.pos := by rw [h.cache, h.pos]

/-- a put keeps the invariant unless it stores, for a left-recursive rule, a failure that ends elsewhere -/
theorem CacheInv.put {s : St} (hs : CacheInv prog s) (p i : Nat) (c : Res)
    (hc : ∀ e r, c = .fail e → prog[i]? = some r → r.deco = .leftrec → e = p) : CacheInv prog (s.put p i c) := by
  intro pos id e r hget hr hd
  rcases cacheGet_cachePut_some hget with ⟨rfl, rfl, he⟩ | h0
  · exact hc e r he.symm hr hd
  · exact hs pos id e r h0 hr hd

theorem sim_simRel (prog : Prog) (w : Array RTok) : SimRel (fun _ => False) (fun a b => Sim a b ∧ CacheInv prog a) prog w where
  agree h := ⟨h.1.pos, h.1.invalid, h.1.cache⟩
  op g h := by
    refine ⟨h.1.map _ (by cases g <;> intro <;> rfl) (by cases g <;> intro <;> rfl), ?_⟩
    induction g with
    | putOk p i e => exact h.2.put p i _ fun _ _ he => nomatch he
    | putFail p i => exact h.2.put p i _ fun _ _ he _ _ => (Res.fail.inj he).symm
    | putMemo p i c hr hd => exact h.2.put p i c fun _ r' _ hr' hd' => by cases hr.symm.trans hr'; cases hd.symm.trans hd'
    | _ => exact h.2
  hitFail hr hd hc := fun ⟨h, hi⟩ => by
    -- the only place where the two runs take different code paths: the verbose one skips a reset, but that reset would go
    -- to the position the run stands at already (`CacheInv`)
    cases hi _ _ _ _ hc hr hd
    simp only [cacheHit, h.va, h.vb, Bool.and_false, Bool.and_true, Bool.false_eq_true, if_false, if_true]
    exact .inr ⟨by rw [h.pos], { h with }, hi⟩

theorem cacheInv_fresh (n : Nat) (s : St) (h : s.cache = Array.replicate n []) : CacheInv prog s := by
  intro pos id e r hget
  rw [h, cacheGet_replicate] at hget; cases hget

theorem sim_init (n : Nat) (inv : Bool) : Sim (St.init n inv false) (St.init n inv true) :=
  ⟨rfl, rfl, rfl, rfl, rfl, rfl, rfl, rfl, rfl, rfl⟩

end XV.Peg
