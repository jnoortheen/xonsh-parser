/-
  Soundness of the dead-alternative checker: with a valid witness, on a token list of the Python
  lexicon, nothing marked dead ever succeeds.  The hypothesis is about the ARGUMENT of a call (a dead rule, alternative,
  item), not about the state, so this is a walk of its own over the step equations: a call is not ok because the one callee
  that would have to be ok is dead.
-/
import XonshVerif.Model.PegDead
import XonshVerif.Proofs.ListAux
import XonshVerif.Proofs.PegStep
namespace XV.Peg

/-- `deadAltsOf` as one pass over the rules and their alternatives (the form the certificate evaluates) -/
theorem deadAltsOf_eq (L : Lexicon) (W : DeadSet) (prog : Prog) : deadAltsOf L W prog =
    prog.toList.zipIdx.flatMap (fun p => match p.1.body with
      | .alts as _ _ => as.zipIdx.filterMap (fun q => if deadAlt L W q.1 then some (p.2, q.2) else none)
      | _ => []) := by
  unfold deadAltsOf
  simp only [← Array.getElem?_toList, Array.size_eq_length_toList]
  refine (List.flatMap_range_getElem? prog.toList (fun id o => match o with
    | some r => (match r.body with
      | .alts as _ _ => (List.range as.length).filterMap (fun i => match as[i]? with
          | some a => if deadAlt L W a then some (id, i) else none
          | none => none)
      | _ => [])
    | none => [])).trans ?_
  congr 1; funext p; dsimp only; split
  · exact List.filterMap_range_getElem? _ (fun i o => match o with
      | some a => if deadAlt L W a then some (p.2, i) else none
      | none => none)
  · rfl

theorem tok_dead {L : Lexicon} {prog : Prog} {w : Array RTok} (hw : PyLex L w) {q : Prim} {test : RTok → Bool} (hq : leafTest q = some test)
    (ht : ∀ t, (t.strId ∉ L.xonshStrs ∧ t.ty ∉ L.xonshTypes) → test t = false) (n : Nat) (s : St) :
    (execPrim prog w (n + 1) q s).1.isOk = false := by
  rw [execPrim_tok hq]
  cases hw' : w[s.pos]? with
  | none => rfl
  | some t =>
    obtain ⟨hlt, rfl⟩ := Array.getElem?_eq_some_iff.mp hw'
    dsimp only
    rw [ht _ (hw _ (Array.getElem_mem_toList hlt)), if_neg Bool.false_ne_true]; rfl

def CertOK (L : Lexicon) (prog : Prog) (W : DeadSet) : Prop :=
  ∀ id, W.contains id = true → ∃ r, prog[id]? = some r ∧ (r.deco = .none ∨ r.deco = .logger) ∧ deadBody L W r.body = true

theorem deadCert_sound (L : Lexicon) (prog : Prog) (W : DeadSet) (h : deadCert L prog W = true) : CertOK L prog W := by
  intro id hid
  unfold deadCert at h
  rw [List.all_eq_true] at h
  have hmem : id ∈ W := by simpa using hid
  have := h id hmem
  split at this
  · rename_i r hr
    simp only [Bool.and_eq_true, Bool.or_eq_true, beq_iff_eq] at this
    exact ⟨r, hr, this.1, this.2⟩
  · simp at this

structure DeadOK (L : Lexicon) (prog : Prog) (w : Array RTok) (W : DeadSet) (fuel : Nat) : Prop where
  prim : ∀ p s, deadPrim L W p = true → (execPrim prog w fuel p s).1.isOk = false
  rule : ∀ id s, W.contains id = true → (execRule prog w fuel id s).1.isOk = false
  body : ∀ rid b s, deadBody L W b = true → (execBody prog w fuel rid b s).1.isOk = false
  seqAlts : ∀ ps mark s, ps.all (deadPrim L W) = true → (execSeqAlts prog w fuel ps mark s).1.isOk = false
  alts : ∀ rid idx as mark s, as.all (deadAlt L W) = true → (execAlts prog w fuel rid idx as mark s).1.isOk = false
  items : ∀ its cut oks s, its.any (fun it => !it.opt && deadItem L W it.item) = true → (execItems prog w fuel its cut oks s).1 = false
  item : ∀ it s, deadItem L W it = true → (execItem prog w fuel it s).1.isOk = false
  rep : ∀ p mark n s, deadPrim L W p = true → (execRepeat prog w fuel p mark n s).1 = n

theorem deadOK_zero (L : Lexicon) (prog : Prog) (w : Array RTok) (W : DeadSet) : DeadOK L prog w W 0 := by
  constructor <;> intros <;> simp [execPrim, execRule, execBody, execSeqAlts, execAlts, execItems, execItem, execRepeat, Res.isOk]

/-- to tell `ite_ind` which property is meant: the clauses of `DeadOK` about a call, and the one about `execItems` -/
abbrev NoOk (r : Res × St) : Prop := r.1.isOk = false
abbrev NotAll (r : Bool × Bool × Res × St × List Bool) : Prop := r.1 = false

theorem deadOK_succ (L : Lexicon) (prog : Prog) (w : Array RTok) (W : DeadSet)
    (hc : CertOK L prog W) (hw : PyLex L w) (fuel : Nat) (ih : DeadOK L prog w W fuel) :
    DeadOK L prog w W (fuel + 1) := by
  refine ⟨?prim, ?rule, ?body, ?seqAlts, ?alts, ?items, ?item, ?rep⟩
  case prim =>
    intro p s hp
    cases p with
    | rule id => rw [execPrim]; exact ih.rule id s hp
    | expect sid =>
      have hp : sid ∈ L.xonshStrs := by simpa [deadPrim] using hp
      exact tok_dead hw rfl (fun t ht => decide_eq_false fun heq : t.strId = sid => ht.1 (heq ▸ hp)) fuel s
    | token ty =>
      have hp : ty ∈ L.xonshTypes := by simpa [deadPrim] using hp
      exact tok_dead hw rfl (fun t ht => decide_eq_false fun heq : t.ty = ty => ht.2 (heq ▸ hp)) fuel s
    | _ => cases hp
  case rule =>
    intro id s hid
    obtain ⟨r, hr, hdeco, hbody⟩ := hc id hid
    rw [execRule_succ, hr]
    rcases hdeco with hd | hd <;> (simp only [hd]; exact ih.body id r.body s hbody)
  case body =>
    intro rid b s hb
    cases b with
    | unmodelled => cases hb
    | seqAlts ps => rw [execBody]; exact ih.seqAlts ps s.pos s hb
    | alts as wo usesLoc =>
      rw [execBody]
      split
      · rfl
      · exact ih.alts _ _ as _ _ hb
  case seqAlts =>
    intro ps mark s hps
    cases ps with
    | nil => rw [execSeqAlts]; rfl
    | cons p ps =>
      simp only [List.all_cons, Bool.and_eq_true] at hps
      rw [execSeqAlts_cons rfl]
      apply ite_ind (Q := NoOk) <;> intro _
      · exact ih.prim p s hps.1
      · exact ih.seqAlts ps mark _ hps.2
  case alts =>
    intro rid idx as mark s has
    cases as with
    | nil => rw [execAlts]; rfl
    | cons a as =>
      simp only [List.all_cons, Bool.and_eq_true] at has
      rw [execAlts_cons rfl]
      apply ite_ind (Q := NoOk) <;> intro hab
      · exact Res.isOk_false_of_abort hab
      · apply ite_ind (Q := NoOk) <;> intro hok
        · rw [ih.items a.items false [] s has.1] at hok; cases hok
        · apply ite_ind (Q := NoOk) <;> intro _
          · rfl
          · exact ih.alts _ _ as mark _ has.2
  case items =>
    intro its cut oks s hits
    cases its with
    | nil => cases hits
    | cons it its =>
      simp only [List.any_cons, Bool.or_eq_true, Bool.and_eq_true, Bool.not_eq_true'] at hits
      rw [execItems_cons rfl]
      -- a `setCut` or an `invalid_` guard is not the dead conjunct
      have rest : deadItem L W it.item = false → its.any (fun it => !it.opt && deadItem L W it.item) = true := fun h =>
        hits.resolve_left fun hd => by rw [h] at hd; cases hd.2
      apply ite_ind (Q := NotAll) <;> intro hsc
      · exact ih.items its true _ s (rest (by rw [hsc]; rfl))
      · apply ite_ind (Q := NotAll) <;> intro hgi
        · apply ite_ind (Q := NotAll) <;> intro _
          · exact ih.items its cut _ s (rest (by rw [hgi]; rfl))
          · rfl
        · apply ite_ind (Q := NotAll) <;> intro _
          · rfl
          · apply ite_ind (Q := NotAll) <;> intro hgo
            · rcases hits with ⟨hopt, hd⟩ | hrest
              · rw [ih.item it.item s hd, hopt] at hgo; cases hgo
              · exact ih.items its cut _ _ hrest
            · rfl
  case item =>
    intro it s hit
    cases it with
    | call p => rw [execItem]; exact ih.prim p s hit
    | seqAlts ps => rw [execItem]; exact ih.seqAlts ps s.pos s hit
    | repeated p =>
      rw [execItem_repeated rfl]
      apply ite_ind (Q := NoOk) <;> intro hab
      · exact Res.isOk_false_of_abort hab
      · rw [ih.rep p s.pos 0 s hit]; rfl
    | gathered elem sep =>
      have h1 := ih.seqAlts [elem] s.pos s (by simpa [deadItem] using hit)
      rw [execItem_gathered rfl rfl]
      apply ite_ind (Q := NoOk) <;> intro _
      · exact h1
      · rw [if_neg (by rw [h1]; nofun)]; rfl
    | posLook p =>
      have h1 := ih.prim p s hit
      rw [execItem_posLook rfl]
      apply ite_ind (Q := NoOk) <;> intro _
      · exact h1
      · rw [if_neg (by rw [h1]; nofun)]; rfl
    | _ => cases hit
  case rep =>
    intro p mark n s hp
    have h1 := ih.prim p s hp
    rw [execRepeat_succ rfl]
    apply ite_ind (Q := fun r : Nat × Res × St => r.1 = n) <;> intro _
    · rfl
    · rw [if_neg (by rw [h1]; nofun)]

/-- With a valid dead-rule witness, on a token list of the Python lexicon, no
    dead rule, dead alternative or dead item ever succeeds, for every fuel and every parser state. -/
theorem dead_never_succeeds (L : Lexicon) (prog : Prog) (w : Array RTok) (W : DeadSet)
    (hc : deadCert L prog W = true) (hw : PyLex L w) : ∀ fuel, DeadOK L prog w W fuel := by
  intro fuel
  induction fuel with
  | zero => exact deadOK_zero L prog w W
  | succ n ih => exact deadOK_succ L prog w W (deadCert_sound L prog W hc) hw n ih

end XV.Peg
