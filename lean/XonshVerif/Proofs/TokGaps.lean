/-
  C08 - the gap clause: every character of the source that lies between two consecutive tokens (or before the first /
  after the last) is a blank, a tab, a form feed (line-leading indentation) or a backslash, CR, LF (a backslash
  continuation).  An overlay on the text invariant (Proofs/StringTiling, carried through the tokenizer in Proofs/TokCover):
  the source between the end of the last token and the start of the prog on top of the mode stack - or the scan position
  when no literal is being accumulated - consists of such characters only.
-/
import XonshVerif.Proofs.TokCover
import XonshVerif.Proofs.RegexChars
namespace XV.Tz
open XV XV.Rx

variable {E : Env} {P : Pats} {lines : List (List Nat)}

def wsChar (c : Nat) : Bool := c = 32 || c = 9 || c = 12
def contChar (c : Nat) : Bool := c = 92 || c = 13 || c = 10
def gapChar (c : Nat) : Bool := wsChar c || contChar c

/-- a gap: what may lie between the end of one token and the start of the next.  Built from runs of blanks / tabs / form
    feeds that START AT COLUMN 0 of a line (line-leading indentation), stretches of backslash / CR / LF (what the `End`
    branch of the master pattern consumes: a backslash continuation), and nothing at all. -/
inductive Gap (lines : List (List Nat)) : Pos → Pos → Prop
  | empty {a b : Pos} : srcText lines a b = [] → Gap lines a b
  | indent {n c : Nat} (l : List Nat) : 1 ≤ n → lines[n - 1]? = some l → c ≤ l.length →
      (∀ i, i < c → ∃ x, l[i]? = some x ∧ wsChar x = true) → Gap lines ⟨n, 0⟩ ⟨n, c⟩
  | cont {n c1 c2 : Nat} (l : List Nat) : 1 ≤ n → lines[n - 1]? = some l → c1 ≤ c2 → c2 ≤ l.length →
      (∀ i, c1 ≤ i → i < c2 → ∃ x, l[i]? = some x ∧ contChar x = true) → Gap lines ⟨n, c1⟩ ⟨n, c2⟩
  | trans {a b c : Pos} : Gap lines a b → Gap lines b c → Gap lines a c
  -- two coordinates may name one place: the end of line `n` is ⟨n + 1, 0⟩
  | congr {a b b' : Pos} : off lines b = off lines b' → Gap lines a b → Gap lines a b'

theorem Gap.refl (lines : List (List Nat)) (a : Pos) : Gap lines a a := .empty (by simp [srcText])

theorem Gap.on_line_ws (lines : List (List Nat)) (st : TState) (hl : LineOK lines st) (c : Nat) (h2 : c ≤ st.max)
    (h : allIn wsChar st.line 0 c) : Gap lines ⟨st.lnum, 0⟩ ⟨st.lnum, c⟩ := by
  refine .indent st.line.toList hl.one hl.cur (by rw [hl.max] at h2; simpa using h2) ?_
  intro i hi
  obtain ⟨x, hx1, hx2⟩ := h i (Nat.zero_le _) hi
  exact ⟨x, by simpa using hx1, hx2⟩

theorem Gap.on_line_cont (lines : List (List Nat)) (st : TState) (hl : LineOK lines st) (c1 c2 : Nat) (h12 : c1 ≤ c2) (h2 : c2 ≤ st.max)
    (h : allIn contChar st.line c1 c2) : Gap lines ⟨st.lnum, c1⟩ ⟨st.lnum, c2⟩ := by
  refine .cont st.line.toList hl.one hl.cur h12 (by rw [hl.max] at h2; simpa using h2) ?_
  intro i hi1 hi2
  obtain ⟨x, hx1, hx2⟩ := h i hi1 hi2
  exact ⟨x, by simpa using hx1, hx2⟩

/-- character `i` of the text is line-leading indentation: it stands on a line of the text and everything before it on
    that line is a blank, a tab or a form feed -/
def LineLeading (lines : List (List Nat)) (i : Nat) : Prop :=
  ∃ n l, 1 ≤ n ∧ lines[n - 1]? = some l ∧ off lines ⟨n, 0⟩ ≤ i ∧ i < off lines ⟨n, 0⟩ + l.length ∧
    ∀ j, off lines ⟨n, 0⟩ ≤ j → j ≤ i → ∃ x, lines.flatten[j]? = some x ∧ wsChar x = true

theorem flatten_at (lines : List (List Nat)) (n : Nat) (l : List Nat) (h : lines[n - 1]? = some l) {i : Nat}
    (h1 : off lines ⟨n, 0⟩ ≤ i) (h2 : i < off lines ⟨n, 0⟩ + l.length) : lines.flatten[i]? = l[i - off lines ⟨n, 0⟩]? := by
  obtain ⟨rest, hr⟩ := flatten_drop_prefix lines (n - 1) l h
  rw [show off lines ⟨n, 0⟩ = prefixLen lines (n - 1) by simp [off]] at h1 h2 ⊢
  have := List.getElem?_drop (xs := lines.flatten) (i := prefixLen lines (n - 1)) (j := i - prefixLen lines (n - 1))
  rw [hr, List.getElem?_append_left (by omega), show prefixLen lines (n - 1) + (i - prefixLen lines (n - 1)) = i by omega] at this
  exact this.symm

/-- **what a gap holds, character by character**: every character of a gap is either a blank / tab / form feed that is
    line-leading indentation, or a backslash / CR / LF -/
theorem Gap.chars {lines : List (List Nat)} {a b : Pos} (h : Gap lines a b) :
    ∀ i x, off lines a ≤ i → i < off lines b → lines.flatten[i]? = some x →
      (wsChar x = true ∧ LineLeading lines i) ∨ contChar x = true := by
  induction h with
  | empty he =>
    intro i x h1 h2 h3
    have hlt := (List.getElem?_eq_some_iff.mp h3).1
    have := congrArg List.length he
    simp only [srcText, List.length_take, List.length_drop, List.length_nil] at this
    omega
  | @indent n c l hn hl hc hall =>
    intro i x h1 h2 h3
    rw [off_col lines n c] at h2
    have upto : ∀ j, off lines ⟨n, 0⟩ ≤ j → j ≤ i → ∃ z, lines.flatten[j]? = some z ∧ wsChar z = true := fun j hj1 hj2 => by
      rw [flatten_at lines n l hl hj1 (by omega)]; exact hall _ (by omega)
    obtain ⟨y, hy1, hy2⟩ := upto i h1 (Nat.le_refl _)
    cases h3.symm.trans hy1
    exact .inl ⟨hy2, n, l, hn, hl, h1, by omega, upto⟩
  | @cont n c1 c2 l hn hl h12 hc hall =>
    intro i x h1 h2 h3
    rw [off_col lines n c1] at h1
    rw [off_col lines n c2] at h2
    obtain ⟨y, hy1, hy2⟩ := hall (i - off lines ⟨n, 0⟩) (by omega) (by omega)
    rw [← flatten_at lines n l hl (by omega) (by omega), h3] at hy1
    cases hy1
    exact .inr hy2
  | @trans a' b' c' _ _ ih1 ih2 =>
    intro i x h1 h2 h3
    by_cases h : i < off lines b'
    · exact ih1 i x h1 h h3
    · exact ih2 i x (by omega) h2 h3
  | congr he _ ih =>
    intro i x h1 h2 h3
    exact ih i x h1 (by rw [he]; exact h2) h3

def lastStop (g : Pos) : List Tok5 → Pos
  | [] => g
  | t :: ts => lastStop t.stop ts

/-- between `g` and the first token, and between every two consecutive tokens, there are gap characters only -/
def Gaps (lines : List (List Nat)) (g : Pos) : List Tok5 → Prop
  | [] => True
  | t :: ts => Gap lines g t.start ∧ Gaps lines t.stop ts

theorem lastStop_append (g : Pos) (a b : List Tok5) : lastStop g (a ++ b) = lastStop (lastStop g a) b := by
  induction a generalizing g with
  | nil => rfl
  | cons t ts ih => exact ih t.stop

theorem Gaps.append {g : Pos} {a b : List Tok5} (h1 : Gaps lines g a) (h2 : Gaps lines (lastStop g a) b) :
    Gaps lines g (a ++ b) := by
  induction a generalizing g with
  | nil => exact h2
  | cons t ts ih => exact ⟨h1.1, ih h1.2 h2⟩

theorem Gaps.one {g : Pos} {t : Tok5} (h : Gap lines g t.start) : Gaps lines g [t] := ⟨h, trivial⟩

theorem Gaps.adjacent {lines : List (List Nat)} {g : Pos} (pre : List Tok5) (a b : Tok5) (post : List Tok5)
    (h : Gaps lines g (pre ++ a :: b :: post)) : Gap lines a.stop b.start := by
  induction pre generalizing g with
  | nil => exact h.2.1
  | cons t ts ih => exact ih h.2

/-- The gap invariant, `g` being the end of the last token.  `top`: when the prog on top accumulates text, there is a gap
    from `g` to its START (its text will be the next token).  `free`: when it does not, a gap from `g` to the scan position. -/
structure GI (lines : List (List Nat)) (g : Pos) (st : TState) : Prop where
  top : ∀ p rest, st.endProgs = p :: rest → isB p = false → Gap lines g p.start
  free : TopB st → Gap lines g (cur st)

theorem GI.continued {g : Pos} {st : TState} (h : GI lines g st) : GI lines g { st with continued := false } :=
  ⟨h.top, h.free⟩

theorem GI.at_cur (lines : List (List Nat)) (s : TState) (c : Pos) (hcur : cur s = c)
    (htop : ∀ q more, s.endProgs = q :: more → isB q = false → q.start = c) : GI lines c s :=
  ⟨fun q more hq hqb => by rw [htop q more hq hqb]; exact Gap.refl _ _, fun _ => by rw [hcur]; exact Gap.refl _ _⟩

/-- what the `End` branch of the master pattern may skip: backslash, CR, LF (certificate on the shipped pattern) -/
def EndGap (P : Pats) : Prop := ∀ b ∈ P.pseudo, b.1 = "End" → onlyChars contChar b.2 = true

/-- the literal part before a delimiter: its token starts where the part started, and nothing lies between it (or, when
    there is no literal text, the start of the part) and the scan position -/
theorem EmitMid.gaps {g : Pos} {st s : TState} {me : Nat} {p : EndProg} {rest : List EndProg} {mid : List Tok5}
    (hg : Gap lines g p.start) (ht : TextAt lines p (cur st)) (h : EmitMid st me p rest mid s) :
    Gaps lines g mid ∧ Gap lines (lastStop g mid) (cur s) := by
  cases h with
  | skip _ hnil => exact ⟨trivial, hg.trans (.empty (by rw [← ht.1]; exact hnil))⟩
  | emit => exact ⟨⟨hg, trivial⟩, Gap.refl _ _⟩

theorem FstrHit.gaps {st s : TState} {p : EndProg} {rest : List EndProg} {ts : List Tok5}
    {g : Pos} (hst : st.endProgs = p :: rest) (hft : FT True lines st) (hg : GI lines g st)
    (h : FstrHit E P st p rest ts s) : Gaps lines g ts ∧ GI lines (lastStop g ts) s := by
  obtain ⟨_, hnb, htop⟩ := h.shape hst hft.shape
  have hre := top_restarted htop
  -- the literal part (if any), then one delimiter token that starts at the scan position and ends where the scan goes on
  obtain ⟨w, r, e, mid, s1, ty, _, _, hem, rfl, hln, hpos⟩ := h.delim (hst ▸ hft.shape : Shape (p :: rest)).ok
  obtain ⟨a, b⟩ := hem.gaps (hg.top p rest hst hnb) (hft.top p rest hst (.inr ⟨trivial, hnb⟩))
  have hc : cur s = ⟨s1.lnum, e⟩ := by simp only [cur, hln, hpos]
  refine ⟨a.append (.one b), ?_⟩
  rw [lastStop_append]
  exact GI.at_cur lines s _ hc (hc ▸ hre).start

theorem EndStep.gaps {st st' : TState} {ts : List Tok5} {g : Pos}
    (hft : FT True lines st) (hg : GI lines g st) (h : EndStep E P st ts st') :
    Gaps lines g ts ∧ GI lines (lastStop g ts) st' := by
  cases h with
  | idle => exact ⟨trivial, hg⟩
  | fstring hst _ hit => exact hit.gaps hst hft hg
  | @string p rest _ e hst hN =>
    refine ⟨.one (hg.top p rest hst (isN_notB hN)), GI.at_cur lines _ _ rfl fun q more hq hb => ?_⟩
    cases hq
    rw [(hst ▸ hft.shape : Shape (p :: q :: more)).below_notB (isN_notB hN)] at hb; cases hb
  | @join p rest hst hB =>
    refine ⟨trivial, fun q more hq _ => by cases hq; exact hg.top p rest hst hB, fun hT => ?_⟩
    exact Bool.noConfusion ((hT _ rest rfl).symm.trans hB)

theorem PseudoMatch.gaps {st st' : TState} {tok : Option Tok5} (hEG : EndGap P)
    {g : Pos} (hft : FT True lines st) (hg : GI lines g st) (hpre : PseudoPre st) (h : PseudoMatch E P st tok st') :
    Gaps lines g tok.toList ∧ GI lines (lastStop g tok.toList) st' := by
  cases h with
  | idle => exact ⟨trivial, hg⟩
  | @hit grp e _ _ hnmax hnM hm hs =>
    have hB : TopB st := hpre.topB hnmax hnM
    obtain ⟨hge, hbd⟩ := hit_bounds hft.line.inLine hm
    have hfree : Gap lines g ⟨st.lnum, st.pos⟩ := hg.free hB
    have hcur : cur st' = ⟨st.lnum, e⟩ := by simp only [cur, hs.adv.1.lnum, hs.adv.2]
    cases hs with
    | fstring => exact ⟨.one hfree, GI.at_cur lines _ _ hcur fun q more hq _ => by cases hq; rfl⟩
    | string => exact ⟨trivial, fun q more hq _ => by cases hq; exact hfree, fun hT => by cases hT _ _ rfl⟩
    | plain => exact ⟨.one hfree, GI.at_cur lines _ _ hcur (hB.fresh _).start⟩
    | op =>
      exact ⟨.one hfree, GI.at_cur lines _ _ hcur
        ((specialAction_step _ _ _).restart (st := { st with pos := e }) hft.shape hB (hft.line.max ▸ hbd)).start⟩
    | continuation hE =>
      -- a backslash continuation: what the `End` branch consumed is a gap
      obtain ⟨r, hmem, hr⟩ := matchBranches_reach hm
      have hc := hr.onlyChars (hEG (grp, r) hmem hE)
      exact ⟨trivial, fun q more hq hb => (by rw [hB q more hq] at hb; cases hb),
        fun _ => hfree.trans (Gap.on_line_cont lines st hft.line st.pos e hge hbd hc)⟩

theorem ScanIter.gaps {st st' : TState} {ts : List Tok5} (hP : PseudoProgress P)
    (hF : FstrLen P) (hE : FstrEnds P) (hEG : EndGap P) {g : Pos} (hft : FT True lines st) (hg : GI lines g st)
    (h : ScanIter E P st ts st') : Gaps lines g ts ∧ GI lines (lastStop g ts) st' := by
  have both : ∀ {ts1 st1 tok st2}, EndStep E P st ts1 st1 → PseudoMatch E P st1 tok st2 →
      Gaps lines g (ts1 ++ tok.toList) ∧ GI lines (lastStop g (ts1 ++ tok.toList)) st2 := by
    intro ts1 st1 tok st2 he hp
    obtain ⟨gs1, g1⟩ := he.gaps hft hg
    obtain ⟨gs2, g2⟩ := hp.gaps hEG (he.src (fun _ => ⟨hF, hE⟩) hft).2 g1 (he.pre hft.shape)
    exact ⟨gs1.append gs2, lastStop_append .. ▸ g2⟩
  cases h with
  | turn _ he hp => exact both he hp
  | err hlt he hp heq =>
    obtain ⟨gs, g2⟩ := both he hp
    have hB2 := scan_stuck_topB hP hF hft.line.inLine hft.shape he hp heq hlt
    rw [Option.toList, List.append_nil] at gs g2
    refine ⟨gs.append (.one (g2.free hB2)), ?_⟩
    rw [lastStop_append]
    exact GI.at_cur lines _ _ rfl fun q more hq hb => (hB2.fresh _).start q more hq hb

theorem Scan.gaps {st st' : TState} {ts : List Tok5} (hP : PseudoProgress P)
    (hF : FstrLen P) (hE : FstrEnds P) (hEG : EndGap P) {g0 : Pos} {acc : List Tok5} (hft : FT True lines st)
    (hacc : Gaps lines g0 acc) (hg : GI lines (lastStop g0 acc) st) (h : Scan E P st ts st') :
    Gaps lines g0 (acc ++ ts) ∧ GI lines (lastStop g0 (acc ++ ts)) st' :=
  (h.fold (I := fun s acc => FT True lines s ∧ Gaps lines g0 acc ∧ GI lines (lastStop g0 acc) s)
    (fun ⟨f, a, g⟩ hi => ⟨(hi.src hP (fun _ => ⟨hF, hE⟩) f).2, a.append (hi.gaps hP hF hE hEG f g).1,
      lastStop_append .. ▸ (hi.gaps hP hF hE hEG f g).2⟩)
    ⟨hft, hacc, hg⟩).2

theorem allIn_mono {ok ok' : Nat → Bool} (h : ∀ c, ok c = true → ok' c = true) {s : Array Nat} {a b : Nat} (h1 : allIn ok s a b) :
    allIn ok' s a b := by
  intro i hi1 hi2
  obtain ⟨c, hc1, hc2⟩ := h1 i hi1 hi2
  exact ⟨c, hc1, h c hc2⟩

theorem measureIndent_ws (tabsize : Nat) (line : Array Nat) : ∀ (fuel col pos : Nat),
    allIn wsChar line pos (measureIndent tabsize line fuel col pos).2 := by
  intro fuel
  induction fuel with
  | zero => intro col pos; simp only [measureIndent]; exact allIn_refl _ _ _
  | succ fuel ih =>
    intro col pos
    simp only [measureIndent]
    split <;> first | (rename_i h; exact allIn_trans (allIn_step h (by decide)) (ih _ _)) | exact allIn_refl _ _ _

theorem gaps_replicate (lines : List (List Nat)) {a p : Pos} (t : Tok5) (h1 : t.start = p) (h2 : t.stop = p) (h : Gap lines a p) :
    ∀ k, Gaps lines a (List.replicate k t) ∧ Gap lines (lastStop a (List.replicate k t)) p
  | 0 => ⟨trivial, h⟩
  | k + 1 => by
    have := gaps_replicate lines t h1 h2 (Gap.refl lines p) k
    exact ⟨⟨h1 ▸ h, h2 ▸ this.1⟩, h2 ▸ this.2⟩

/-- the tokens of `next_statement`, when there is a gap from `g` to the start of the line and to where the statement starts -/
theorem StmtStep.gaps {g : Pos} {st s : TState} {col pos : Nat} {ts : List Tok5} {a : StmtAction}
    (hl : LineOK lines st) (hskip : Gap lines g ⟨st.lnum, pos⟩) (hfree : Gap lines g ⟨st.lnum, 0⟩) (h : StmtStep st col pos ts s a) :
    Gaps lines g ts ∧ (a = .proceed → Gap lines (lastStop g ts) (cur s)) ∧
    (a = .continueLoop → Gap lines (lastStop g ts) ⟨st.lnum, st.max⟩) := by
  have hsz : st.line.toList.length = st.max := by rw [hl.max]; simp
  cases h with
  | eof | blankEnd => exact ⟨trivial, nofun, nofun⟩
  | comment => exact ⟨⟨hskip, Gap.refl _ _, trivial⟩, nofun, fun _ => hsz ▸ Gap.refl _ _⟩
  | blank => exact ⟨⟨hskip, trivial⟩, nofun, fun _ => hsz ▸ Gap.refl _ _⟩
  | indent => exact ⟨⟨hfree, trivial⟩, fun _ => Gap.refl _ _, nofun⟩
  | @dedent k =>
    obtain ⟨a, b⟩ := gaps_replicate lines (dedentTok st.lnum pos st.line.toList) rfl rfl hskip k
    exact ⟨a, fun _ => b, nofun⟩

/-- `next_statement` at the start of a line, with an empty mode stack: what it skips before its first token is the line's
    indentation -/
theorem stmt_gaps {g : Pos} {st s : TState} {ts : List Tok5} {a : StmtAction}
    (hl : LineOK lines st) (hg : GI lines g st) (hpos : st.pos = 0) (hnil : st.endProgs = []) (hs : Stmt P st ts s a) :
    Gaps lines g ts ∧ (a = .proceed → Gap lines (lastStop g ts) (cur s)) ∧
    (a = .continueLoop → Gap lines (lastStop g ts) ⟨st.lnum, st.max⟩) := by
  have hfree : Gap lines g ⟨st.lnum, 0⟩ := hpos ▸ hg.free (fun q more hq => by rw [hnil] at hq; cases hq)
  have hws : allIn wsChar st.line 0 (measureIndent P.tabsize st.line (st.max + 1) 0 st.pos).2 :=
    fun i _ hi => measureIndent_ws P.tabsize st.line (st.max + 1) 0 st.pos i (hpos ▸ Nat.zero_le _) hi
  exact hs.gaps hl (hfree.trans (Gap.on_line_ws lines st hl _ (hl.stmt_pos _) hws)) hfree

theorem HeadScan.gaps {st s : TState} {ts : List Tok5} {g : Pos}
    (hft : FT True lines st) (hg : GI lines g st) (hpos : st.pos = 0) (h : HeadScan E P st ts s) :
    Gaps lines g ts ∧ GI lines (lastStop g ts) s := by
  cases h with
  | progs _ he => exact he.gaps hft.continued hg.continued
  | stmt hnil hs =>
    obtain ⟨gs, gp, _⟩ := stmt_gaps hft.line hg hpos hnil hs
    exact ⟨gs, fun q more hq => (by rw [hs.progs, hnil] at hq; cases hq), fun _ => gp rfl⟩
  | inside => exact ⟨trivial, hg.top, hg.free⟩

theorem nextEndTokens_gaps (lines : List (List Nat)) (g : Pos) (ll : List Nat) (lc : Bool) (s : TState)
    (hoff : off lines ⟨s.lnum - 1, ll.length⟩ = off lines ⟨s.lnum, 0⟩) (hg : Gap lines g ⟨s.lnum - 1, ll.length⟩) :
    Gaps lines g (nextEndTokens ll lc s) ∧ lastStop g (nextEndTokens ll lc s) = ⟨s.lnum, 0⟩ := by
  obtain ⟨nl, h, hnl⟩ := nextEndTokens_eq ll lc s
  -- up to the NEWLINE (if any) and from there to the start of the next line
  have hn : Gaps lines g nl ∧ Gap lines (lastStop g nl) ⟨s.lnum, 0⟩ := by
    rcases hnl with rfl | ⟨rfl, _⟩
    · exact ⟨trivial, .congr hoff hg⟩
    · refine ⟨⟨hg, trivial⟩, .empty ?_⟩
      show srcText lines ⟨s.lnum - 1, ll.length + 1⟩ ⟨s.lnum, 0⟩ = []
      have h1 : off lines ⟨s.lnum - 1, ll.length + 1⟩ = off lines ⟨s.lnum - 1, ll.length⟩ + 1 := by unfold off; simp only []; omega
      unfold srcText; rw [h1, hoff]; simp
  obtain ⟨d1, d2⟩ := gaps_replicate lines (dedentTok s.lnum 0 []) rfl rfl hn.2 (s.indents.length - 1)
  rw [h]
  refine ⟨(hn.1.append d1).append (.one (by rw [lastStop_append]; exact d2)), ?_⟩
  rw [lastStop_append]; rfl

/-- `GI` between two lines: `free` reaches the start of the next line -/
def BG (lines : List (List Nat)) (g : Pos) (st : TState) : Prop :=
  (∀ p rest, st.endProgs = p :: rest → isB p = false → Gap lines g p.start) ∧ (TopB st → Gap lines g ⟨st.lnum + 1, 0⟩)

theorem bg_of_gi (lines : List (List Nat)) (g : Pos) (st : TState) (hl : LineOK lines st) (hg : GI lines g st)
    (hend : st.pos = st.max) : BG lines g st :=
  ⟨hg.top, fun hB => .congr (hl.end_off hend) (hg.free hB)⟩

/-- `break` happens only on a line that holds nothing but indentation (or on the empty line at the end of input) -/
theorem HeadStop.ws {st s : TState} (hpos : st.pos = 0) (hmax : st.max = st.line.size) (h : HeadStop P st s) :
    allIn wsChar st.line 0 st.max := by
  obtain ⟨_, hs⟩ := h
  generalize ([] : List Tok5) = ts0 at hs
  cases hs with
  | eof he =>
    intro i _ hi
    have : st.line.size = 0 := by simpa using he
    omega
  | blankEnd hge =>
    have hws := measureIndent_ws P.tabsize st.line (st.max + 1) 0 st.pos
    rw [hpos] at hws hge
    exact fun i hi1 hi2 => hws i hi1 (by omega)

/-- after the ENDMARKER: what is left of the text is a final line of indentation only -/
theorem HeadStop.trailing {st s : TState} (hnl : NonLastEndNL lines)
    (hprev : PrevOK lines st) (hh : HeadStop P (st.moveNextLine (lines[st.lnum]?.getD [])) s) :
    Gap lines ⟨st.lnum + 1, 0⟩ ⟨lines.length + 1, 0⟩ := by
  have hle := hprev.le
  cases hll : lines[st.lnum]? with
  | none =>
    have := List.getElem?_eq_none_iff.mp hll
    rw [show lines.length = st.lnum by omega]; exact Gap.refl _ _
  | some l =>
    rw [hll] at hh
    have hws := hh.ws rfl (moveNextLine_max st l)
    have hmx : (st.moveNextLine l).max = l.length := rfl
    have hgap : Gap lines ⟨st.lnum + 1, 0⟩ ⟨st.lnum + 1, l.length⟩ :=
      Gap.on_line_ws lines (st.moveNextLine l) (.moveNextLine hll) l.length (Nat.le_refl _) (hmx ▸ hws)
    have hlast : lines.length = st.lnum + 1 := by
      have hlt := (List.getElem?_eq_some_iff.mp hll).1
      rcases Nat.lt_or_ge (st.lnum + 1) lines.length with hlt2 | hge
      · -- a line that is not the last ends in a line feed, which is no indentation
        exfalso
        have h10 := hnl st.lnum l hll hlt2
        rw [List.getLast?_eq_getElem?] at h10
        have hpos : 0 < l.length := by cases l with | nil => cases h10 | cons _ _ => simp
        obtain ⟨d, hd1, hd2⟩ := hws (l.length - 1) (Nat.zero_le _) (by rw [hmx]; omega)
        rw [show (st.moveNextLine l).line[l.length - 1]? = l[l.length - 1]? from List.getElem?_toArray, h10] at hd1
        cases hd1; exact absurd hd2 (by decide)
      · omega
    have he := off_line_end lines (st.lnum + 1) l (Nat.le_add_left 1 _) hll
    rw [hlast]
    exact .congr he hgap

/-- **the line loop**: gap characters only between `g` and the first token and between every two tokens, and from the last
    token to the end of the text -/
theorem Lines.gaps (hnl : NonLastEndNL lines) (hP : PseudoProgress P) (hF : FstrLen P) (hE : FstrEnds P) (hEG : EndGap P)
    {rest : List (List Nat)} {st : TState} {ts : List Tok5} {g : Pos} (h : Lines E P rest st ts)
    (hrest : rest = lines.drop st.lnum) (hprev : PrevOK lines st) (hb : BT True lines st) (hbg : BG lines g st) :
    Gaps lines g ts ∧ Gap lines (lastStop g ts) ⟨lines.length + 1, 0⟩ := by
  have hC : True → FstrLen P ∧ FstrEnds P := fun _ => ⟨hF, hE⟩
  refine h.fold (lines := lines) (Q := fun out => Gaps lines g out ∧ Gap lines (lastStop g out) ⟨lines.length + 1, 0⟩)
    (I := fun st acc => BT True lines st ∧ Gaps lines g acc ∧ BG lines (lastStop g acc) st) ?_ ?_ (acc := []) hrest hprev
    ⟨hb, trivial, hbg⟩
  · intro st s l acc ts ⟨hb, hacc, hbg⟩ hl hi
    refine ⟨(hi.src hP hC hb hl).2, ?_⟩
    have hft0 := ft_of_bt hb hl
    have hg0 : GI lines (lastStop g acc) (st.moveNextLine l) := ⟨hbg.1, hbg.2⟩
    cases hi with
    | skip hh =>
      obtain ⟨gs, _, gc⟩ := stmt_gaps hft0.line hg0 rfl hh.nil hh.stmt
      refine ⟨hacc.append gs, And.intro (fun p r hp => by rw [hh.after] at hp; cases hp) fun _ => ?_⟩
      rw [lastStop_append, hh.stmt.frame.1]
      exact .congr (off_line_end lines (st.lnum + 1) l (Nat.le_add_left _ _) hl) (gc rfl)
    | scan hh hs =>
      obtain ⟨gs, gp⟩ := hh.gaps hft0 hg0 rfl
      have hgo := (hh.src hC hft0).2
      obtain ⟨a2, g2⟩ := hs.gaps hP hF hE hEG hgo (hacc.append gs) (lastStop_append .. ▸ gp)
      rw [← List.append_assoc]
      exact ⟨a2, bg_of_gi lines _ _ (hs.src hP hC hgo).2.1.line g2 (hs.src hP hC hgo).2.2⟩
  · intro st s acc ⟨_, hacc, hbg⟩ hprev hh
    have hl' : s.lnum = st.lnum + 1 := hh.stmt.frame.1
    have hnil : st.endProgs = [] := hh.nil
    have hoff := prev_off lines st hprev
    have hg1 : Gap lines (lastStop g acc) ⟨st.lnum, st.line.toList.length⟩ :=
      (.congr hoff.symm (hbg.2 fun q more hq => by rw [hnil] at hq; cases hq))
    have := nextEndTokens_gaps lines (lastStop g acc) st.line.toList st.commentLine s
      (by rw [hl', Nat.add_sub_cancel]; exact hoff) (by rw [hl', Nat.add_sub_cancel]; exact hg1)
    refine ⟨hacc.append this.1, ?_⟩
    rw [lastStop_append, this.2, hl']
    exact hh.trailing hnl hprev

/-- the same said of the function, after the tokens `acc` -/
theorem tokenizeLines_g (lines : List (List Nat)) (hnl : NonLastEndNL lines) (E : Env) (P : Pats) (hP : PseudoProgress P) (hF : FstrLen P) (hE : FstrEnds P) (hEG : EndGap P) :
    ∀ (fuel : Nat) (rest : List (List Nat)) (st : TState) (acc out : List Tok5) (g0 : Pos),
      BT True lines st → PrevOK lines st → rest = lines.drop st.lnum → Gaps lines g0 acc → BG lines (lastStop g0 acc) st →
      tokenizeLines E P fuel rest st acc = .ok out → Gaps lines g0 out ∧ Gap lines (lastStop g0 out) ⟨lines.length + 1, 0⟩ := by
  intro fuel rest st acc out g0 hb hprev hrest hacc hbg h
  obtain ⟨ts, rfl, hl⟩ := tokenizeLines_cases fuel h
  obtain ⟨a, b⟩ := hl.gaps hnl hP hF hE hEG hrest hprev hb hbg
  exact ⟨hacc.append a, lastStop_append .. ▸ b⟩

end XV.Tz
