/-
  C08 - the text of a literal, across lines.  The prog ON TOP of the mode stack, when it accumulates text (plain string,
  f-string literal part, format spec), holds exactly the source from its start coordinate to the scan position:
  `add_prog` starts it with a slice of the line, `prog_token` and `join_line` extend it by the line up to where the scan
  goes on, `pop_mode(end)` restarts it empty at the scan position.  (A literal part under a `{`-prog keeps stale text; it
  comes back to the top only through that restart.)  So the STRING or FSTRING_MIDDLE token built from the top prog is the
  source between the token's coordinates.  Here: the invariant (`FT`, and `BT` between two lines) and the source
  arithmetic it needs; Proofs/TokCover.lean carries it through the tokenizer.
-/
import XonshVerif.Proofs.SrcText
import XonshVerif.Proofs.TokStack
namespace XV.Tz
open XV XV.Rx

variable {lines : List (List Nat)}

def TokSrc (lines : List (List Nat)) (t : Tok5) : Prop := t.str = srcText lines t.start t.stop

def TextAt (lines : List (List Nat)) (p : EndProg) (c : Pos) : Prop :=
  p.text = srcText lines p.start c ∧ off lines p.start ≤ off lines c

theorem slice_src (lines : List (List Nat)) (st : TState) (s e : Nat) (hl : LineOK lines st) (hse : s ≤ e) (hemax : e ≤ st.max) :
    slice st.line s e = srcText lines ⟨st.lnum, s⟩ ⟨st.lnum, e⟩ := by
  have h0 : srcText lines ⟨st.lnum, s⟩ ⟨st.lnum, s⟩ = [] := by simp [srcText]
  have := srcText_append lines ⟨st.lnum, s⟩ st.lnum st.line.toList hl.cur s e hse
    (by rw [hl.max] at hemax; simpa using hemax) (Nat.le_refl _)
  rw [h0, List.nil_append] at this
  rw [slice_eq, this]

theorem text_extend {st : TState} {p : EndProg} (hl : LineOK lines st) (ht : TextAt lines p (cur st))
    {e : Nat} (hpe : st.pos ≤ e) (he : e ≤ st.max) :
    p.text ++ slice st.line st.pos e = srcText lines p.start ⟨st.lnum, e⟩ ∧ off lines p.start ≤ off lines ⟨st.lnum, e⟩ := by
  obtain ⟨htxt, hoff⟩ : p.text = srcText lines p.start ⟨st.lnum, st.pos⟩ ∧ off lines p.start ≤ off lines ⟨st.lnum, st.pos⟩ := ht
  have happ := srcText_append lines p.start st.lnum st.line.toList hl.cur st.pos e hpe
    (by rw [hl.max] at he; simpa using he) hoff
  refine ⟨by rw [slice_eq, htxt, happ], ?_⟩
  unfold off at hoff ⊢
  simp only [] at hoff ⊢
  omega

theorem addProg_text (lines : List (List Nat)) (st : TState) (s e : Nat) (mode : Mode) (pat : PatKind) (q : List Nat)
    (hl : LineOK lines st) (hse : s ≤ e) (hemax : e ≤ st.max) :
    TextAt lines { mode := mode, pat := pat, text := slice st.line s e, contline := st.line.toList, start := ⟨st.lnum, s⟩, quote := q } ⟨st.lnum, e⟩ :=
  ⟨slice_src lines st s e hl hse hemax, by unfold off; simp only []; omega⟩

theorem TextAt.of_restart {q : EndProg} {c : Pos} (h : q.start = c ∧ q.text = []) : TextAt lines q c := by
  refine ⟨?_, Nat.le_of_eq (congrArg _ h.1)⟩
  rw [h.2, h.1]; simp [srcText]

/-- two coordinates may name one place -/
theorem TextAt.congr {p : EndProg} {c c' : Pos} (he : off lines c = off lines c') (h : TextAt lines p c) : TextAt lines p c' :=
  ⟨by rw [h.1]; unfold srcText; rw [he], he ▸ h.2⟩

/-- the scan has reached the end of its line: the next line starts there -/
theorem LineOK.end_off {st : TState} (hl : LineOK lines st) (hend : st.pos = st.max) :
    off lines (Tz.cur st) = off lines ⟨st.lnum + 1, 0⟩ := by
  rw [Tz.cur, hend, hl.max, ← Array.length_toList]; exact off_line_end lines st.lnum _ hl.one hl.cur

/-- The progs the invariant follows: plain strings always, f-string literal parts and format specs when `C` holds.
    `C` stands for the certificates on the f-string patterns (`FstrLen`, `FstrEnds`); without them the f-string scanner
    need not even move forward, and only what is said about the other tokens stands. -/
def Tracked (C : Prop) (p : EndProg) : Prop := isN p = true ∨ (C ∧ isB p = false)

theorem Tracked.notB {C : Prop} {p : EndProg} (h : Tracked C p) : isB p = false := h.elim isN_notB And.right

theorem Fresh.textAt {C : Prop} {st : TState} {c : Pos} (h : Fresh st c) :
    ∀ q more, st.endProgs = q :: more → Tracked C q → TextAt lines q c :=
  fun q more hq hq' => .of_restart (h q more hq hq'.notB)

/-- the text invariant: we are on a line of the source, the mode stack is well shaped, and a prog on top of it that
    accumulates text has accumulated exactly the source from its start to the scan position -/
structure FT (C : Prop) (lines : List (List Nat)) (st : TState) : Prop where
  line : LineOK lines st
  shape : Shape st.endProgs
  top : ∀ p rest, st.endProgs = p :: rest → Tracked C p → TextAt lines p (cur st)

theorem FT.same {C : Prop} {lines : List (List Nat)} {st s : TState} (hl : LineOK lines s) (hv : Shape st.endProgs) (hB : TopB st)
    (h1 : s.endProgs = st.endProgs) : FT C lines s :=
  ⟨hl, h1 ▸ hv, fun p rest hp ht => Bool.noConfusion ((hB p rest (h1 ▸ hp)).symm.trans ht.notB)⟩

structure BT (C : Prop) (lines : List (List Nat)) (st : TState) : Prop where
  shape : Shape st.endProgs
  top : ∀ p rest, st.endProgs = p :: rest → Tracked C p → TextAt lines p ⟨st.lnum + 1, 0⟩

theorem bt_of_ft {C : Prop} {lines : List (List Nat)} {st : TState} (hft : FT C lines st) (hend : st.pos = st.max) : BT C lines st :=
  ⟨hft.shape, fun p rest hp ht => (hft.top p rest hp ht).congr (hft.line.end_off hend)⟩

theorem ft_of_bt {C : Prop} {lines : List (List Nat)} {st : TState} {l : List Nat} (hb : BT C lines st) (hl : lines[st.lnum]? = some l) :
    FT C lines (st.moveNextLine l) :=
  ⟨.moveNextLine hl, hb.shape, hb.top⟩

theorem FT.continued {C : Prop} {st : TState} (h : FT C lines st) : FT C lines { st with continued := false } :=
  ⟨h.line.continued, h.shape, h.top⟩

theorem bt_init (C : Prop) (lines : List (List Nat)) : BT C lines TState.init := ⟨trivial, by intro p rest hp; cases hp⟩

/-- `FT.top` for plain strings, said of the state alone; `joined_nextLine_src` is stated with it -/
def TopOK (lines : List (List Nat)) (st : TState) : Prop :=
  ∀ p rest, st.endProgs = p :: rest → textMode p = true →
    p.text = srcText lines p.start ⟨st.lnum, st.pos⟩ ∧ off lines p.start ≤ off lines ⟨st.lnum, st.pos⟩

theorem joined_nextLine_src (lines : List (List Nat)) (st : TState) (p : EndProg) (rest : List EndProg) (next : List Nat)
    (hl : LineOK lines st) (ht : TopOK lines st) (hp : st.endProgs = p :: rest) (hm : textMode p = true)
    (hnext : lines[st.lnum]? = some next) :
    TopOK lines ((joined st p rest).moveNextLine next) ∧ LineOK lines ((joined st p rest).moveNextLine next) := by
  refine ⟨fun q rest' hq _ => ?_, .moveNextLine hnext⟩
  cases hq
  have h1 := text_extend hl (ht p rest hp hm) hl.pos (Nat.le_refl _)
  rw [hl.max, ← Array.length_toList] at h1
  exact TextAt.congr (off_line_end lines _ _ hl.one hl.cur) h1

@[simp] theorem popMode_lnum' (st : TState) (e : Option Pos) : (st.popMode e).lnum = st.lnum := popMode_lnum st e
@[simp] theorem popMode_pos' (st : TState) (e : Option Pos) : (st.popMode e).pos = st.pos := popMode_pos st e

theorem isN_false_of_mode {p : EndProg} (h : p.mode ≠ .none) : isN p = false := by
  unfold isN; cases hm : p.mode <;> simp [hm] at h ⊢

end XV.Tz
