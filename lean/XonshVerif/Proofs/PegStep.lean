/-
  One step of the interpreter, for every proof about it.
  1. What `cacheGet` finds after `cachePut`, in a fresh cache.
  2. The interpreter touches the parser state only through a handful of operations (`reset`, `peek`, `adv`, `put`, `fire`,
     setting `invalid` / `assumed`); `bodyEntry`, `bodyExit` and the six token primitives (one clause, `execPrim_tok`, through
     `leafTest`) are written in terms of them once.
  3. One unfolding step of each of the ten functions, with the callee's answer named by a hypothesis `hx : call = x` (pass
     `rfl`, or generalise the call first) and every `match res with | .ok _ => A | _ => B` as an `if` on `isAbort` / `isOk`,
     to be taken apart with `ite_ind` (Proofs/ListAux) / `ite_rel` or `if_pos` / `if_neg`.
  4. `parse_eq`: `Parser.parse` is a rule call and, if that fails, a second one from `St.second`.
  The invariants that tie the answer of a call to the state (Consume, Spec, Dead, Total) walk these equations themselves.
-/
import XonshVerif.Model.Peg
import XonshVerif.Proofs.ListAux
namespace XV.Peg

theorem Res.cases3 (r : Res) : r.isAbort = true ∨ (∃ e, r = .ok e) ∨ ∃ m, r = .fail m := by
  cases r <;> simp [Res.isAbort]

theorem Res.isOk_false_of_abort {r : Res} (h : r.isAbort = true) : r.isOk = false := by
  cases r <;> simp [Res.isAbort, Res.isOk] at *

theorem ite_rel {α β : Sort _} {Q : α → β → Prop} {c : Prop} [Decidable c] {x x' : α} {y y' : β}
    (ht : c → Q x y) (hf : ¬c → Q x' y') : Q (if c then x else x') (if c then y else y') := by
  by_cases h : c
  · rw [if_pos h, if_pos h]; exact ht h
  · rw [if_neg h, if_neg h]; exact hf h

theorem cacheGet_cachePut (c : Array (List (Nat × Res))) (p i : Nat) (r : Res) (p' i' : Nat) :
    cacheGet (cachePut c p i r) p' i' =
      if p' = p ∧ i' = i ∧ p < c.size then some r else cacheGet c p' i' := by
  unfold cachePut cacheGet
  by_cases hlt : p < c.size
  · rw [dif_pos hlt]
    by_cases hp : p' = p
    · subst hp
      rw [Array.getElem?_set_self hlt, Array.getElem?_eq_getElem hlt]
      by_cases hi : i' = i
      · simp [hi, hlt]
      · -- the entry in front is for another rule, and dropping the old entry for `i` does not hide one for `i'`
        have : ∀ x : Nat × Res, (!decide (x.1 = i) && decide (x.1 = i')) = decide (x.1 = i') := fun x => by
          by_cases hx : x.1 = i' <;> simp [hx, hi]
        simp [hi, Ne.symm hi, List.find?_filter, this]
    · rw [Array.getElem?_set_ne hlt (fun h => hp h.symm), if_neg (fun h => hp h.1)]
  · rw [dif_neg hlt, if_neg (fun h => hlt h.2.2)]

theorem cacheGet_cachePut_some {c : Array (List (Nat × Res))} {p i p' i' : Nat} {r x : Res}
    (h : cacheGet (cachePut c p i r) p' i' = some x) : (p' = p ∧ i' = i ∧ x = r) ∨ cacheGet c p' i' = some x := by
  rw [cacheGet_cachePut] at h
  by_cases hc : p' = p ∧ i' = i ∧ p < c.size
  · rw [if_pos hc] at h; exact .inl ⟨hc.1, hc.2.1, (Option.some.inj h).symm⟩
  · rw [if_neg hc] at h; exact .inr h

theorem cacheGet_replicate (n p id : Nat) : cacheGet (Array.replicate n ([] : List (Nat × Res))) p id = none := by
  unfold cacheGet
  rw [Array.getElem?_replicate]
  by_cases h : p < n
  · rw [if_pos h]; rfl
  · rw [if_neg h]

/-- `getnext()` after `k` peeks -/
def St.adv (s : St) (k : Nat) : St :=
  { s with pos := s.pos + 1, nexts := s.nexts + 1, peeks := s.peeks + k, fetched := max s.fetched (s.pos + 1) }
def St.peek (s : St) : St := { s with fetched := max s.fetched (s.pos + 1), peeks := s.peeks + 1 }
def St.put (s : St) (p i : Nat) (r : Res) : St := { s with cache := cachePut s.cache p i r }
def St.fire (s : St) (rid idx : Nat) : St := { s with fired := (rid, idx) :: s.fired }
def St.setInvalid (s : St) (i : Bool) : St := { s with invalid := i }
def St.assume (s : St) : St := { s with assumed := true }

/-- the test a token primitive makes on the token it looks at -/
def leafTest : Prim → Option (RTok → Bool)
  | .expect sid => some (fun t => t.strId = sid)
  | .token ty => some (fun t => t.ty = ty)
  | .name => some (fun t => t.ty = .NAME && !t.isKw)
  | .keyword => some (fun t => t.ty = .NAME && t.isKw)
  | .softKeyword => some (fun t => t.ty = .NAME && t.isSoft)
  | .anyToken => some (fun _ => true)
  | .rule _ => none

/-- peeks counted by a token primitive that succeeds: `anyToken` is `getnext()` without a peek of its own -/
def Prim.peeks : Prim → Nat
  | .anyToken => 1
  | _ => 2

variable {prog : Prog} {w : Array RTok}

theorem bodyEntry_eq (wo ul : Bool) (s : St) :
    bodyEntry w wo ul s =
      if ul then (match w[s.pos]? with
        | some _ => some (s.setInvalid (!wo && s.invalid)).peek
        | none => none)
      else some (s.setInvalid (!wo && s.invalid)) := by
  unfold bodyEntry peekTok
  cases wo <;> cases ul <;> simp only [St.peek, St.setInvalid, Bool.false_eq_true, if_false, if_true] <;>
    first | rfl | (cases w[s.pos]? <;> rfl)

theorem bodyExit_eq (wo prev : Bool) (res : Res) (s : St) :
    bodyExit wo prev res s = s.setInvalid (if res.isAbort || !wo then s.invalid else prev) := by
  unfold bodyExit; split <;> rfl

theorem bodyEntry_same (w : Array RTok) (wo ul : Bool) (s sB : St) (h : bodyEntry w wo ul s = some sB) : sB.pos = s.pos ∧ sB.cache = s.cache := by
  rw [bodyEntry_eq] at h
  split at h
  · split at h
    · cases h; exact ⟨rfl, rfl⟩
    · cases h
  · cases h; exact ⟨rfl, rfl⟩

theorem bodyExit_same (wo prev : Bool) (res : Res) (s : St) : (bodyExit wo prev res s).pos = s.pos ∧ (bodyExit wo prev res s).cache = s.cache := by
  rw [bodyExit_eq]; exact ⟨rfl, rfl⟩

/-! `execItems` answers (all conjuncts truthy?, cut flag, result, state, which conjuncts' calls succeeded); `execRepeat` and
    `execSepRepeat` answer (count, result, state).  The theorems of Properties/ and the `ConsInv` / `SpecInv` clauses spell the projections out; elsewhere: -/
abbrev res5 (x : Bool × Bool × Res × St × List Bool) : Res := x.2.2.1
abbrev st5 (x : Bool × Bool × Res × St × List Bool) : St := x.2.2.2.1
abbrev res3 (x : Nat × Res × St) : Res := x.2.1
abbrev st3 (x : Nat × Res × St) : St := x.2.2

/-- what a rule returns on a cache hit (`lr`: through `memoize_left_rec`) -/
def cacheHit (lr : Bool) (s : St) : Res → Res × St
  | .ok e => (.ok e, s.reset e)
  | .fail e => if lr && s.verbose then (.fail s.pos, s) else (.fail e, s.reset e)
  | c => (c, s)

/-- what `memoize` does with the result of the body -/
def memoStore (mark id : Nat) (x : Res × St) : Res × St :=
  if x.1.isAbort then x else (x.1, x.2.put mark id (if x.1.isOk then .ok x.2.pos else .fail x.2.pos))

/-- `return <action>` once all conjuncts were truthy -/
def actResult (act : ActKind) (oks : List Bool) (s : St) : Res × St :=
  match act with
  | .truthy => (.ok s.pos, s)
  | .none => (.fail s.pos, s)
  | .raises => (.raised, s)
  | .mayRaise | .gate _ => (.ok s.pos, s.assume)
  | .viaItem i => if (oks.reverse[i]?).getD false then (.ok s.pos, s) else (.fail s.pos, s)
  | .unknown => (.undecided, s)

section step
variable (prog w) (n : Nat)

theorem execRule_succ (id : Nat) (s : St) :
    execRule prog w (n + 1) id s =
      match prog[id]? with
      | none => (.undecided, s)
      | some r =>
        match r.deco with
        | .none | .logger => execBody prog w n id r.body s
        | .memo =>
          match cacheGet s.cache s.pos id with
          | some c => cacheHit false s c
          | none => memoStore s.pos id (execBody prog w n id r.body s)
        | .leftrec =>
          match cacheGet s.cache s.pos id with
          | some c => cacheHit true s c
          | none => grow prog w n id r.body s.pos none s.pos (s.put s.pos id (.fail s.pos)) := by
  rw [execRule]
  cases prog[id]? with
  | none => rfl
  | some r =>
    simp only []
    cases r.deco with
    | none => rfl
    | logger => rfl
    | memo =>
      simp only []
      cases cacheGet s.cache s.pos id with
      | some c => cases c <;> rfl
      | none =>
        simp only [memoStore]
        rcases execBody prog w n id r.body s with ⟨res, s1⟩
        cases res <;> rfl
    | leftrec =>
      simp only []
      cases cacheGet s.cache s.pos id with
      | some c => cases c <;> simp [cacheHit]
      | none => rfl

variable {prog w n}

theorem execPrim_tok {q : Prim} {test : RTok → Bool} (hq : leafTest q = some test) (s : St) :
    execPrim prog w (n + 1) q s = match w[s.pos]? with
      | none => (.tokErr, s)
      | some t => if test t then (.ok (s.pos + 1), s.adv q.peeks) else (.fail s.pos, s.peek) := by
  have hleaf (test : RTok → Bool) : leaf w test s = match w[s.pos]? with
      | none => (.tokErr, s)
      | some t => if test t then (.ok (s.pos + 1), s.adv 2) else (.fail s.pos, s.peek) := by
    rw [leaf, peekTok]
    cases w[s.pos]? with
    | none => rfl
    | some t => simp only [St.adv, St.peek]; rw [Nat.max_eq_left (Nat.le_max_right _ _)]
  cases q with
  | rule => cases hq
  | anyToken => cases hq; rw [execPrim]; cases w[s.pos]? <;> rfl
  | _ => cases hq; rw [execPrim, hleaf]; rfl

theorem execBody_alts {rid : Nat} {as : List Alt} {wo ul : Bool} {s sB : St} {x : Res × St} (hb : bodyEntry w wo ul s = some sB)
    (hx : execAlts prog w n rid 0 as sB.pos sB = x) :
    execBody prog w (n + 1) rid (.alts as wo ul) s = (x.1, bodyExit wo s.invalid x.1 x.2) := by
  subst hx; rw [execBody, hb]

theorem grow_succ {id : Nat} {body : Body} {mark : Nat} {last : Option Nat} {lastmark : Nat} {s : St} {x : Res × St}
    (hx : execBody prog w n id body (s.reset mark) = x) :
    grow prog w (n + 1) id body mark last lastmark s =
      if x.1.isAbort then x
      else if x.1.isOk = true ∧ lastmark < x.2.pos then
        grow prog w n id body mark (some x.2.pos) x.2.pos (x.2.put mark id (.ok x.2.pos))
      else grow.finish id mark last lastmark x.2 := by
  subst hx
  rw [grow]
  rcases execBody prog w n id body (s.reset mark) with ⟨res, s1⟩
  cases res <;> simp only [Res.isAbort, Res.isOk, St.put, Bool.false_eq_true, false_and, true_and, if_false, if_true]
  by_cases h : s1.pos ≤ lastmark
  · rw [if_pos h, if_neg (Nat.not_lt.mpr h)]
  · rw [if_neg h, if_pos (Nat.lt_of_not_le h)]

theorem execSeqAlts_cons {p : Prim} {ps : List Prim} {mark : Nat} {s : St} {x : Res × St} (hx : execPrim prog w n p s = x) :
    execSeqAlts prog w (n + 1) (p :: ps) mark s =
      if x.1.isAbort || x.1.isOk then x else execSeqAlts prog w n ps mark (x.2.reset mark) := by
  subst hx
  rw [execSeqAlts]
  rcases execPrim prog w n p s with ⟨res, s1⟩
  cases res <;> rfl

theorem execAlts_cons {rid idx : Nat} {a : Alt} {as : List Alt} {mark : Nat} {s : St} {x : Bool × Bool × Res × St × List Bool}
    (hx : execItems prog w n a.items false [] s = x) :
    execAlts prog w (n + 1) rid idx (a :: as) mark s =
      if x.2.2.1.isAbort then (x.2.2.1, x.2.2.2.1)
      else if x.1 then actResult a.act x.2.2.2.2 (x.2.2.2.1.fire rid idx)
      else if x.2.1 then (.fail mark, x.2.2.2.1.reset mark)
      else execAlts prog w n rid (idx + 1) as mark (x.2.2.2.1.reset mark) := by
  subst hx
  rw [execAlts]
  rcases execItems prog w n a.items false [] s with ⟨ok, cut, res, s0, oks⟩
  cases a.act <;> rfl

theorem execItems_cons {it : AltItem} {its : List AltItem} {cut : Bool} {oks : List Bool} {s : St} {x : Res × St}
    (hx : execItem prog w n it.item s = x) :
    execItems prog w (n + 1) (it :: its) cut oks s =
      if it.item = .setCut then execItems prog w n its true (true :: oks) s
      else if it.item = .guardInvalid then
        (if s.invalid then execItems prog w n its cut (true :: oks) s else (false, cut, .fail s.pos, s, oks))
      else if x.1.isAbort then (false, cut, x.1, x.2, oks)
      else if x.1.isOk || it.opt then execItems prog w n its cut (x.1.isOk :: oks) x.2
      else (false, cut, x.1, x.2, oks) := by
  subst hx
  rw [execItems]
  cases hi : it.item <;> simp

theorem execRepeat_succ {p : Prim} {mark k : Nat} {s : St} {x : Res × St} (hx : execPrim prog w n p s = x) :
    execRepeat prog w (n + 1) p mark k s =
      if x.1.isAbort then (k, x.1, x.2)
      else if x.1.isOk then execRepeat prog w n p x.2.pos (k + 1) x.2
      else (k, .ok mark, x.2.reset mark) := by
  subst hx
  rw [execRepeat]
  rcases execPrim prog w n p s with ⟨res, s1⟩
  cases res <;> rfl

theorem execSepRepeat_succ {e sp : Prim} {mark k : Nat} {s : St} {x y : Res × St} (hx : execPrim prog w n sp s = x)
    (hy : execSeqAlts prog w n [e] x.2.pos x.2 = y) :
    execSepRepeat prog w (n + 1) e sp mark k s =
      if x.1.isAbort then (k, x.1, x.2)
      else if x.1.isOk then
        (if y.1.isAbort then (k, y.1, y.2)
         else if y.1.isOk then execSepRepeat prog w n e sp y.2.pos (k + 1) y.2
         else (k, .ok mark, y.2.reset mark))
      else (k, .ok mark, x.2.reset mark) := by
  subst hx hy
  rw [execSepRepeat]
  rcases execPrim prog w n sp s with ⟨res, s1⟩
  cases res <;> try rfl
  simp only [Res.isAbort, Res.isOk, Bool.false_eq_true, if_false, if_true]
  rcases execSeqAlts prog w n [e] s1.pos s1 with ⟨res2, s2⟩
  cases res2 <;> rfl

theorem execItem_repeated {p : Prim} {s : St} {x : Nat × Res × St} (hx : execRepeat prog w n p s.pos 0 s = x) :
    execItem prog w (n + 1) (.repeated p) s =
      if x.2.1.isAbort then (x.2.1, x.2.2) else if x.1 = 0 then (.fail x.2.2.pos, x.2.2) else (.ok x.2.2.pos, x.2.2) := by
  subst hx; rw [execItem]

theorem execItem_gathered {e sp : Prim} {s : St} {x : Res × St} {y : Nat × Res × St} (hx : execSeqAlts prog w n [e] s.pos s = x)
    (hy : execSepRepeat prog w n e sp x.2.pos 0 x.2 = y) :
    execItem prog w (n + 1) (.gathered e sp) s =
      if x.1.isAbort then x
      else if x.1.isOk then (if y.2.1.isAbort then (y.2.1, y.2.2) else (.ok y.2.2.pos, y.2.2))
      else (.fail s.pos, x.2.reset s.pos) := by
  subst hx hy
  rw [execItem]
  rcases execSeqAlts prog w n [e] s.pos s with ⟨res, s1⟩
  cases res <;> rfl

theorem execItem_posLook {p : Prim} {s : St} {x : Res × St} (hx : execPrim prog w n p s = x) :
    execItem prog w (n + 1) (.posLook p) s =
      if x.1.isAbort then x else if x.1.isOk then (.ok s.pos, x.2.reset s.pos) else (.fail s.pos, x.2.reset s.pos) := by
  subst hx; rw [execItem]

theorem execItem_negLook {p : Prim} {s : St} {x : Res × St} (hx : execPrim prog w n p s = x) :
    execItem prog w (n + 1) (.negLook p) s =
      if x.1.isAbort then x else if x.1.isOk then (.fail s.pos, x.2.reset s.pos) else (.ok s.pos, x.2.reset s.pos) := by
  subst hx; rw [execItem]

theorem execItem_forced {p : Prim} {what : Nat} {s : St} {x : Res × St} (hx : execPrim prog w n p s = x) :
    execItem prog w (n + 1) (.forced p what) s = if x.1.isAbort || x.1.isOk then x else (.raised, x.2) := by
  subst hx
  rw [execItem]
  rcases execPrim prog w n p s with ⟨res, s1⟩
  cases res <;> rfl

end step

/-- the state in which the diagnostic pass starts -/
def St.second (w : Array RTok) (s : St) : St := { (s.reset 0) with invalid := true, cache := Array.replicate (w.size + 1) [] }

/-- what `Parser.parse` makes of the answer of its last pass: the first (`far = none`), or the diagnostic one, which ends in
    the generic error at `far` unless it raised something better -/
def Outcome.of (far : Option Nat) : Res → Outcome
  | .raised => .raised
  | .undecided => .undecided
  | .tokErr => .tokErr
  | .outOfFuel => .outOfFuel
  | _ => match far with | none => .tree | some f => .invalidSyntax f

theorem Outcome.of_eq_tree {far : Option Nat} {r : Res} (h : Outcome.of far r = .tree) : far = none ∧ r.isAbort = false := by
  cases far <;> cases r <;> first | exact ⟨rfl, rfl⟩ | cases h

theorem Outcome.of_eq_invalidSyntax {far : Option Nat} {r : Res} {f : Nat} (h : Outcome.of far r = .invalidSyntax f) : far = some f := by
  cases far <;> cases r <;> cases h <;> rfl

theorem Outcome.of_eq_outOfFuel {far : Option Nat} {r : Res} (h : Outcome.of far r = .outOfFuel) : r = .outOfFuel := by
  cases far <;> cases r <;> first | rfl | cases h

theorem parse_eq {fuel start : Nat} {v : Bool} {x y : Res × St} (hx : execRule prog w fuel start (St.init w.size false v) = x)
    (hy : execRule prog w fuel start (x.2.second w) = y) :
    parse prog w fuel start v =
      if x.1.isAbort || x.1.isOk then (.of none x.1, x.2, none, x.1) else (.of (some x.2.fetched) y.1, x.2, some y.2, x.1) := by
  subst hx hy
  unfold parse
  simp only []
  cases execRule prog w fuel start (St.init w.size false v) with
  | mk r1 s1 =>
    cases r1 <;> try rfl
    simp only [St.second]
    cases (execRule prog w fuel start _).1 <;> rfl

end XV.Peg
