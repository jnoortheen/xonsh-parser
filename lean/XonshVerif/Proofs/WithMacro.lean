/-
  C07 (with-macros): what `consume_with_macro_params` captures is made of the line texts the tokenizer reports,
  each source line at most once, in the order in which the lines were first met.
-/
import XonshVerif.Model.WithMacro
import XonshVerif.Proofs.ListAux
namespace XV.WithMacro
open XV

/-- where a captured line can come from: the `line` attribute of a consumed token that starts on that line (whole, cut to
    its first physical line for a token that spans lines, or from the token's column on for the very first line of the
    one-line form), or a line strictly inside a token that spans three or more lines -/
def FromTok (t : WTok) (k : Nat) (v : List Nat) : Prop :=
  (k = t.start.line ∧ (v = t.line ∨ v = firstPhysical t.line ∨ v = t.line.drop t.start.col ∨ v = (firstPhysical t.line).drop t.start.col)) ∨
  (∃ off txt, txt ∈ innerLines t.str ∧ 1 ≤ off ∧ k = t.start.line + off ∧ v = txt ++ [10])

/-- every captured (line number, text) pair has a source -/
def Prov (getLine : Nat → List Nat) (toks : List WTok) (ls : List (Nat × List Nat)) : Prop :=
  ∀ kv ∈ ls, (∃ t ∈ toks, FromTok t kv.1 kv.2) ∨ kv.2 = getLine kv.1

def KeysNodup (ls : List (Nat × List Nat)) : Prop := (ls.map (·.1)).Nodup

theorem Prov.mono {g : Nat → List Nat} {a b : List WTok} {ls : List (Nat × List Nat)} (h : Prov g a ls) (hab : ∀ t ∈ a, t ∈ b) : Prov g b ls := by
  intro kv hkv
  rcases h kv hkv with ⟨t, ht, hf⟩ | h2
  · exact Or.inl ⟨t, hab t ht, hf⟩
  · exact Or.inr h2

/-- what the loop keeps of its dict `lines`: no line number twice, every entry with a source -/
abbrev Inv (g : Nat → List Nat) (toks : List WTok) (ls : List (Nat × List Nat)) : Prop := KeysNodup ls ∧ Prov g toks ls

section
variable {g : Nat → List Nat} {toks : List WTok} {t : WTok} {s : WS}

/-- Every write to `lines` in the loop is the test-and-append that `setDefault` is: called in `addInner`, written out in `tail`
    (where a `show` puts the name back, true by unfolding) and in `nlState`.  So this is the one place where the invariant is
    re-established. -/
theorem Inv.setDefault {ls : List (Nat × List Nat)} (h : Inv g toks ls) {k : Nat} {v : List Nat}
    (hv : (∃ t ∈ toks, FromTok t k v) ∨ v = g k) : Inv g toks (setDefault ls k v) := by
  unfold WithMacro.setDefault
  split
  · exact h
  · rename_i hk
    refine ⟨?_, fun kv hkv => ?_⟩
    · have hk' : k ∉ ls.map (·.1) := fun hm => by
        obtain ⟨a, ha, rfl⟩ := List.mem_map.mp hm
        exact hk (List.any_eq_true.mpr ⟨a, ha, decide_eq_true rfl⟩)
      show ((ls ++ [(k, v)]).map (·.1)).Nodup
      rw [List.map_append, List.nodup_append]
      refine ⟨h.1, by simp, fun a ha b hb hab => hk' ?_⟩
      rwa [hab, List.mem_singleton.mp hb] at ha
    · rcases List.mem_append.mp hkv with h1 | h1
      · exact h.2 kv h1
      · exact List.mem_singleton.mp h1 ▸ hv

theorem addInner_inv (ht : t ∈ toks) :
    ∀ {txts : List (List Nat)} {off : Nat} {ls : List (Nat × List Nat)}, (∀ x ∈ txts, x ∈ innerLines t.str) → 1 ≤ off →
      Inv g toks ls → Inv g toks (addInner ls t.start.line txts off) := by
  intro txts
  induction txts with
  | nil => intro off ls _ _ h; exact h
  | cons x xs ih =>
    intro off ls hmem hoff h
    exact ih (fun y hy => hmem y (List.mem_cons_of_mem _ hy)) (by omega)
      (h.setDefault (Or.inl ⟨t, ht, Or.inr ⟨off, x, hmem x List.mem_cons_self, hoff, rfl, rfl⟩⟩))

/-- the four forms in which the loop stores the first line of a token -/
theorem fromTok_first (t : WTok) (b : Bool) :
    FromTok t t.start.line (if b then (if t.start.line = t.stop.line then t.line else firstPhysical t.line)
      else (if t.start.line = t.stop.line then t.line else firstPhysical t.line).drop t.start.col) := by
  refine Or.inl ⟨rfl, ?_⟩
  cases b <;> by_cases hl : t.start.line = t.stop.line <;> simp [hl]

theorem tail_inv (ht : t ∈ toks) (h : Inv g toks s.lines) : Inv g toks (tail t s).lines := by
  have hs1 : (if t.ty = .NL || t.ty = .COMMENT then s else { s with bodyStarted := true }).lines = s.lines := by split <;> rfl
  unfold tail
  generalize (if t.ty = .NL || t.ty = .COMMENT then s else { s with bodyStarted := true }) = s1 at hs1
  have h1 : Inv g toks (setDefault s1.lines t.start.line _) :=
    (hs1 ▸ h).setDefault (Or.inl ⟨t, ht, fromTok_first t (s1.block || !s1.lines.isEmpty)⟩)
  show Inv g toks (if _ then addInner (setDefault s1.lines _ _) _ _ _ else setDefault s1.lines _ _)
  exact ite_ind (fun _ => addInner_inv ht (fun _ hx => hx) (Nat.le_refl _) h1) fun _ => h1

/-- NEWLINE: possibly the last line of a string that began earlier -/
theorem nlState_inv (ht : t ∈ toks) (h : Inv g toks s.lines) : Inv g toks (nlState g t s).lines := by
  unfold nlState
  split
  · rename_i hc
    simp only [Bool.and_eq_true] at hc
    have hk : hasKey s.lines t.start.line = false := by simpa using hc.2
    have := h.setDefault (k := t.start.line) (v := if t.line.isEmpty then g t.start.line else t.line)
      (by by_cases he : t.line.isEmpty = true
          · right; simp [he]
          · left; exact ⟨t, ht, Or.inl ⟨rfl, Or.inl (by simp [he])⟩⟩)
    simpa [WithMacro.setDefault, hk] using this
  · exact h

/-- `step` is a tree of conditionals; the `lines` of every leaf are `s.lines`, or `tail` / `nlState` of it.  Written as a term
    that follows the tree: `split` on the unfolded definition costs forty times as much. -/
theorem step_inv (idx : Nat) (ht : t ∈ toks) (h : Inv g toks s.lines) : Inv g toks (step g idx t s).1.lines := by
  have ite {c : Prop} [Decidable c] {a b : WS × Ctl} (ha : Inv g toks a.1.lines) (hb : Inv g toks b.1.lines) :
      Inv g toks (if c then a else b).1.lines := ite_ind (Q := fun x : WS × Ctl => Inv g toks x.1.lines) (fun _ => ha) fun _ => hb
  have hn := nlState_inv ht h
  exact ite h <| ite (ite h (tail_inv ht h)) <| ite (ite h h) <| ite (ite hn (ite hn (tail_inv ht hn))) (tail_inv ht h)

end

/-- Every line of the captured body is the text the tokenizer attached to a CONSUMED token that starts on that line (`tok.line`,
    cut to its first physical line for a token spanning lines; from the token's own column on for the first line of the
    one-line form), or a line strictly inside a consumed multi-line token, or - for the final line of a string that ends the
    input - what `get_lines` returns for it; and no line number is captured twice.  The consumed tokens are the first
    `pre.length` of the generator, as many as the count the loop returns says; `old` are those behind what `s.lines` holds. -/
theorem with_macro_lines_from_consumed (g : Nat → List Nat) :
    ∀ (gen : List WTok) (idx : Nat) (s : WS) (old : List WTok), Inv g old s.lines →
      ∃ pre suf, gen = pre ++ suf ∧ (loop g gen idx s).2.1 = idx + pre.length ∧ Inv g (old ++ pre) (loop g gen idx s).1.lines := by
  intro gen
  induction gen with
  | nil => intro idx s old h; exact ⟨[], [], rfl, rfl, by rwa [List.append_nil]⟩
  | cons t ts ih =>
    intro idx s old h
    have hst : Inv g (old ++ [t]) (step g idx t s).1.lines :=
      step_inv idx (List.mem_append_right _ List.mem_cons_self) ⟨h.1, h.2.mono fun _ hx => List.mem_append_left _ hx⟩
    simp only [loop]
    cases hstep : step g idx t s with
    | mk s1 c =>
      rw [hstep] at hst
      cases c with
      | go =>
        obtain ⟨pre, suf, e, hn, hi⟩ := ih (idx + 1) s1 (old ++ [t]) hst
        exact ⟨t :: pre, suf, by rw [e, List.cons_append], by rw [hn, List.length_cons]; omega,
          by rwa [List.append_assoc, List.singleton_append] at hi⟩
      | stop b => exact ⟨[t], ts, rfl, rfl, hst⟩

/-- The same with a source among the tokens of any list `all` that holds what the generator delivers. -/
theorem with_macro_lines_verbatim (g : Nat → List Nat) (all : List WTok) :
    ∀ (gen : List WTok) (idx : Nat) (s : WS), (∀ t ∈ gen, t ∈ all) → KeysNodup s.lines → Prov g all s.lines →
      KeysNodup (loop g gen idx s).1.lines ∧ Prov g all (loop g gen idx s).1.lines := by
  intro gen idx s hall h1 h2
  obtain ⟨pre, suf, e, -, hi⟩ := with_macro_lines_from_consumed g gen idx s all ⟨h1, h2⟩
  exact ⟨hi.1, hi.2.mono fun x hx => (List.mem_append.mp hx).elim id fun hp => hall x (e ▸ List.mem_append_left _ hp)⟩

/-! Non-vacuity: the raw tokens after `with! a:` in `with! a:⏎    x⏎    y⏎z⏎` - NEWLINE INDENT x NEWLINE y NEWLINE DEDENT z.  The loop
    consumes seven tokens (up to the DEDENT), clears the flag, and the captured body is the two block lines, dedented. -/
def l2 : List Nat := [32, 32, 32, 32, 120, 10]
def l3 : List Nat := [32, 32, 32, 32, 121, 10]
def exToks : List WTok := [
  ⟨.NEWLINE, [10], ⟨1, 8⟩, ⟨1, 9⟩, [119, 105, 116, 104, 33, 32, 97, 58, 10]⟩,
  ⟨.INDENT, [32, 32, 32, 32], ⟨2, 0⟩, ⟨2, 4⟩, l2⟩, ⟨.NAME, [120], ⟨2, 4⟩, ⟨2, 5⟩, l2⟩, ⟨.NEWLINE, [10], ⟨2, 5⟩, ⟨2, 6⟩, l2⟩,
  ⟨.NAME, [121], ⟨3, 4⟩, ⟨3, 5⟩, l3⟩, ⟨.NEWLINE, [10], ⟨3, 5⟩, ⟨3, 6⟩, l3⟩,
  ⟨.DEDENT, [], ⟨4, 0⟩, ⟨4, 0⟩, [122, 10]⟩, ⟨.NAME, [122], ⟨4, 0⟩, ⟨4, 1⟩, [122, 10]⟩]
example : consumeWithMacro (fun _ => []) exToks = ([120, 10, 121, 10], 7, true) := by decide +kernel
example : (loop (fun _ => []) exToks 0 {}).1.lines = [(2, l2), (3, l3)] := by decide +kernel
/-- `textwrap.dedent` on a block with a deeper line and a whitespace-only line -/
example : dedent [32, 32, 97, 10, 32, 32, 32, 32, 98, 10, 32, 9, 10, 32, 32, 99, 10] = [97, 10, 32, 32, 98, 10, 10, 99, 10] := by decide +kernel
end XV.WithMacro
