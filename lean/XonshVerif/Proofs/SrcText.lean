/-
  C08 - the text between two coordinates of a source given as its list of physical lines, and the arithmetic needed to
  follow a string literal across lines.
-/
import XonshVerif.Model.Tokenize
import XonshVerif.Proofs.ListAux
namespace XV.Tz
open XV

def prefixLen (lines : List (List Nat)) (k : Nat) : Nat := ((lines.take k).map List.length).sum

/-- offset of a (1-based line, 0-based column) coordinate in the concatenated text -/
def off (lines : List (List Nat)) (p : Pos) : Nat := prefixLen lines (p.line - 1) + p.col

def srcText (lines : List (List Nat)) (a b : Pos) : List Nat :=
  (lines.flatten.drop (off lines a)).take (off lines b - off lines a)

theorem prefixLen_succ (lines : List (List Nat)) (k : Nat) (l : List Nat) (h : lines[k]? = some l) :
    prefixLen lines (k + 1) = prefixLen lines k + l.length := by
  obtain ⟨hk, rfl⟩ := List.getElem?_eq_some_iff.mp h
  unfold prefixLen
  rw [List.take_succ_eq_append_getElem hk, List.map_append, List.sum_append]; simp

theorem prefixLen_all (lines : List (List Nat)) (k : Nat) (h : lines.length ≤ k) : prefixLen lines k = lines.flatten.length := by
  unfold prefixLen
  rw [List.take_of_length_le h, List.length_flatten]

theorem off_col (lines : List (List Nat)) (n c : Nat) : off lines ⟨n, c⟩ = off lines ⟨n, 0⟩ + c := rfl

/-- past the last line: the end of the text -/
theorem off_end (lines : List (List Nat)) {n : Nat} (h : lines.length ≤ n) : off lines ⟨n + 1, 0⟩ = lines.flatten.length :=
  prefixLen_all lines n h

theorem off_line_end (lines : List (List Nat)) (n : Nat) (l : List Nat) (hn : 1 ≤ n) (h : lines[n - 1]? = some l) :
    off lines ⟨n, l.length⟩ = off lines ⟨n + 1, 0⟩ := by
  obtain ⟨m, rfl⟩ : ∃ m, n = m + 1 := ⟨n - 1, by omega⟩
  simp only [off, Nat.add_sub_cancel, Nat.add_zero, prefixLen_succ lines m l h]

theorem flatten_drop_prefix (lines : List (List Nat)) : ∀ (k : Nat) (l : List Nat), lines[k]? = some l →
    ∃ rest, lines.flatten.drop (prefixLen lines k) = l ++ rest := by
  induction lines with
  | nil => intro k l h; simp at h
  | cons x xs ih =>
    intro k l h
    cases k with
    | zero =>
      simp only [List.getElem?_cons_zero, Option.some.injEq] at h
      subst h
      exact ⟨xs.flatten, by simp [prefixLen]⟩
    | succ k =>
      simp only [List.getElem?_cons_succ] at h
      obtain ⟨rest, hr⟩ := ih k l h
      refine ⟨rest, ?_⟩
      have : prefixLen (x :: xs) (k + 1) = x.length + prefixLen xs k := by simp [prefixLen]
      rw [this, List.flatten_cons, List.drop_append]
      simp only [List.drop_eq_nil_of_le (Nat.le_add_right _ _), List.nil_append, Nat.add_sub_cancel_left]
      exact hr

theorem flatten_slice (lines : List (List Nat)) (n : Nat) (l : List Nat) (h : lines[n - 1]? = some l)
    (c1 c2 : Nat) (h12 : c1 ≤ c2) (h2 : c2 ≤ l.length) :
    (lines.flatten.drop (off lines ⟨n, c1⟩)).take (c2 - c1) = (l.drop c1).take (c2 - c1) := by
  unfold off
  obtain ⟨rest, hr⟩ := flatten_drop_prefix lines (n - 1) l h
  simp only []
  rw [← List.drop_drop, hr, List.drop_append]
  have : c1 - l.length = 0 := by omega
  rw [this, List.drop_zero, List.take_append]
  have : c2 - c1 - (l.drop c1).length = 0 := by simp; omega
  rw [this, List.take_zero, List.append_nil]

theorem srcText_append (lines : List (List Nat)) (a : Pos) (n : Nat) (l : List Nat) (h : lines[n - 1]? = some l)
    (c1 c2 : Nat) (h12 : c1 ≤ c2) (h2 : c2 ≤ l.length) (ha : off lines a ≤ off lines ⟨n, c1⟩) :
    srcText lines a ⟨n, c1⟩ ++ (l.drop c1).take (c2 - c1) = srcText lines a ⟨n, c2⟩ := by
  unfold srcText
  rw [← flatten_slice lines n l h c1 c2 h12 h2,
    show c2 - c1 = off lines ⟨n, c2⟩ - off lines ⟨n, c1⟩ by unfold off; simp only []; omega]
  exact List.take_drop_append_take_drop lines.flatten ha (by unfold off; simp only []; omega)

/-! `splitLines`: nothing is lost, every line but the last ends in a line feed, and a text that ends in a line feed
    splits on its own -/

/-- every line but the last ends in a line feed (what `splitLines` produces) -/
def NonLastEndNL (lines : List (List Nat)) : Prop := ∀ i l, lines[i]? = some l → i + 1 < lines.length → l.getLast? = some 10

theorem splitLines_flatten : ∀ (src cur : List Nat), (splitLines src cur).flatten = cur.reverse ++ src := by
  intro src cur
  fun_induction splitLines src cur with
  | case1 => rfl
  | case2 cur _ => simp
  | case3 cs cur ih => simp [ih]
  | case4 c cs cur hc ih => simp [ih]

theorem splitLines_nonLastEndNL : ∀ (src cur : List Nat), NonLastEndNL (splitLines src cur) := by
  intro src cur
  fun_induction splitLines src cur with
  | case1 => exact fun i l h => by cases h
  | case2 cur _ => exact fun i l h hlt => by simp at hlt
  | case3 cs cur ih =>
    intro i l h hlt
    cases i with
    | zero => cases h; simp
    | succ i => exact ih i l h (by simpa using hlt)
  | case4 c cs cur hc ih => exact ih

/-- a text that ends in a line feed, without its first character: empty, or it ends in that line feed -/
theorem getLast?_tail {c : Nat} {cs : List Nat} (h : (c :: cs).getLast? = some 10) : cs = [] ∨ cs.getLast? = some 10 := by
  cases cs with
  | nil => exact .inl rfl
  | cons d ds => exact .inr (by rwa [List.getLast?_cons_cons] at h)

theorem splitLines_append (A B : List Nat) (hA : A.getLast? = some 10) :
    ∀ cur, splitLines (A ++ B) cur = splitLines A cur ++ splitLines B [] := by
  intro cur
  fun_induction splitLines A cur with
  | case1 => cases hA
  | case2 => cases hA
  | case3 cs cur ih =>
    rw [List.cons_append, splitLines, if_pos rfl]
    rcases getLast?_tail hA with rfl | h
    · rfl
    · rw [ih h]; rfl
  | case4 c cs cur hc ih =>
    rw [List.cons_append, splitLines, if_neg hc]
    rcases getLast?_tail hA with rfl | h
    · cases hc (by simpa using hA)
    · exact ih h

/-- the last line of a text that ends in a line feed ends in that line feed -/
theorem splitLines_last (A : List Nat) (hA : A.getLast? = some 10) :
    ∀ cur, ∃ l, (splitLines A cur).getLast? = some l ∧ l.getLast? = some 10 := by
  intro cur
  fun_induction splitLines A cur with
  | case1 => cases hA
  | case2 => cases hA
  | case3 cs cur ih =>
    rcases getLast?_tail hA with rfl | h
    · exact ⟨(10 :: cur).reverse, by simp [splitLines], by simp⟩
    · obtain ⟨l, h1, h2⟩ := ih h
      exact ⟨l, by rw [List.getLast?_cons, h1]; rfl, h2⟩
  | case4 c cs cur hc ih =>
    rcases getLast?_tail hA with rfl | h
    · cases hc (by simpa using hA)
    · exact ih h

end XV.Tz
