/-
  The "fired alternatives" invariant: with a valid dead-rule witness, on a token list of the Python
  lexicon, no alternative that is marked dead ever has its action run - in any rule, at any depth,
  in either pass: an alternative fires only after all its conjuncts succeeded (what `StOp.fire` carries), which those
  of a dead one never do.
-/
import XonshVerif.Proofs.PegSim
import XonshVerif.Proofs.PegDead
namespace XV.Peg

def FiredOK (L : Lexicon) (prog : Prog) (W : DeadSet) (s : St) : Prop :=
  ∀ x ∈ s.fired, ∀ a, altAt prog x.1 x.2 = some a → deadAlt L W a = false

variable {L : Lexicon} {prog : Prog} {W : DeadSet}

@[simp] theorem reset_fired (s : St) (p : Nat) : (s.reset p).fired = s.fired := rfl

theorem firedOK_closed (w : Array RTok) (hc : deadCert L prog W = true) (hw : PyLex L w) : Closed (FiredOK L prog W) prog w where
  op g h := by
    induction g with
    | @fire _ _ al n s0 _ ha hok =>
      intro x hx b hb
      rcases List.mem_cons.mp hx with rfl | hx
      · rw [ha] at hb
        cases hb
        cases hda : deadAlt L W al with
        | false => rfl
        | true =>
          rw [(dead_never_succeeds L prog w W hc hw n).items al.items false [] s0 hda] at hok
          cases hok
      · exact h x hx b hb
    | _ => exact h

theorem firedOK_init (n : Nat) (b : Bool) : FiredOK L prog W (St.init n b) := by
  intro x hx; simp [St.init] at hx

end XV.Peg
