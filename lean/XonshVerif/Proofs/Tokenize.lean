/-
  C03 - progress and termination of the tokenizer model: `handle_end_progs` and `next_psuedo_matches` keep the line, never
  move the position backwards and stay inside the line, a returned token moves it strictly forward; so the scan loop of a
  line and the loop over the lines never run out of their fuel.
-/
import XonshVerif.Proofs.TokSteps
namespace XV.Tz
open XV XV.Rx

theorem handleEndProgs_adv (E : Env) (P : Pats) (st st' : TState) (ts : List Tok5)
    (hmax : st.max = st.line.size) (hle : st.pos ≤ st.max)
    (h : handleEndProgs E P st = .ok (ts, st')) : Adv st st' ∧ st'.pos ≤ st'.max :=
  ((handleEndProgs_cases h).adv ⟨hmax, hle⟩).imp_right InLine.pos

theorem nextPseudo_adv (E : Env) (P : Pats) (hP : PseudoProgress P) (st st' : TState) (tok : Option Tok5)
    (hmax : st.max = st.line.size) (hle : st.pos ≤ st.max)
    (h : nextPseudoMatches E P st = .ok (tok, st')) :
    Adv st st' ∧ st'.pos ≤ st'.max ∧ (tok.isSome → st.pos < st'.pos) :=
  have hs := nextPseudoMatches_cases h
  ⟨(hs.adv ⟨hmax, hle⟩).1, (hs.adv ⟨hmax, hle⟩).2.pos, fun ht => by cases tok with | none => cases ht | some t => exact hs.lt hP⟩

/-- With the progress certificate the scan loop of a line (`while state.pos < state.max` in `_tokenize`) never runs out of
    its fuel: every turn moves the position strictly forward. -/
theorem scanLine_no_loopFuel (E : Env) (P : Pats) (hP : PseudoProgress P) :
    ∀ (fuel : Nat) (st : TState) (acc acc' : List Tok5),
      st.max = st.line.size → st.pos ≤ st.max → st.max - st.pos < fuel →
      scanLine E P fuel st acc ≠ .error (.loopFuel, acc') := by
  intro fuel
  induction fuel with
  | zero => intro st acc acc' _ _ hf; omega
  | succ fuel ih =>
    intro st acc acc' hmax hle hf
    rcases scanLine_step E P fuel st acc with ⟨_, e⟩ | ⟨_, _, e, hne⟩ | ⟨ts, s, hi, e⟩ <;> rw [e]
    · nofun
    · exact fun hc => hne (by cases hc; rfl)
    · obtain ⟨a, b⟩ := hi.adv ⟨hmax, hle⟩
      exact ih s _ acc' b.max b.pos (by have := a.max; have := b.pos; have := hi.lt hP ⟨hmax, hle⟩; omega)

theorem tokenizeLines_no_loopFuel (E : Env) (P : Pats) (hP : PseudoProgress P) :
    ∀ (fuel : Nat) (lines : List (List Nat)) (st : TState) (acc acc' : List Tok5),
      lines.length < fuel →
      tokenizeLines E P fuel lines st acc ≠ .error (.loopFuel, acc') := by
  intro fuel
  induction fuel with
  | zero => intro lines st acc acc' h; omega
  | succ fuel ih =>
    intro lines st acc acc' hlen
    rcases tokenizeLines_step E P fuel lines st acc with ⟨_, e, hne⟩ | ⟨_, _, e⟩ | ⟨l, rest', ts, s, rfl, hh, e⟩ |
      ⟨l, rest', ts, s, rfl, hh, e⟩ <;> rw [e]
    · exact fun hc => hne (by cases hc; rfl)
    · nofun
    · exact ih _ _ _ _ (by simpa using hlen)
    · obtain ⟨_, _, h3⟩ := hh.frame (.moveNextLine st l)
      split
      · rename_i e he
        intro hc; cases hc
        exact scanLine_no_loopFuel E P hP _ s _ acc' h3.max h3.pos (by omega) he
      · exact ih _ _ _ _ (by simpa using hlen)

end XV.Tz
