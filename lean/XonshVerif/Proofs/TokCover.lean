/-
  C08, first clause - the text of every token is the source between its coordinates.
  The invariant of Proofs/StringTiling (a prog on top of the mode stack that accumulates text holds the source from its
  start to the scan position) is carried through the tokenizer, and every token is read off it or off the current line:
  STRING and FSTRING_MIDDLE from the prog, the delimiters of the f-string scanner from the end of the match, the tokens
  of the master pattern, ERRORTOKEN, COMMENT / NL / INDENT as pieces of the line; DEDENT, the implicit NEWLINE and
  ENDMARKER are empty.  Only the f-string scanner needs certificates on its patterns (`FstrLen`, `FstrEnds`); the
  parameter `C` says whether they are there.  Without them the theorem speaks of the `Covered` tokens, which are fewer
  than "all but the f-string scanner's": `Covered` looks at type and text only and so leaves out EVERY operator token
  `{` or `}`, those of the master pattern (dict / set braces, the `}` that closes an f-string field) included.
-/
import XonshVerif.Proofs.StringTiling
namespace XV.Tz
open XV XV.Rx

variable {E : Env} {P : Pats} {lines : List (List Nat)} {C : Prop}

/-- Not FSTRING_MIDDLE, not FSTRING_END, not an operator `{` / `}` - whoever emitted it.  It is `¬ FstrTok t` written
    out (the definition is referred to as it is); every token of the f-string scanner is outside (`FstrTok.not_covered`). -/
def Covered (t : Tok5) : Prop :=
  t.ty ≠ .FSTRING_MIDDLE ∧ t.ty ≠ .FSTRING_END ∧ ¬ (t.ty = .OP ∧ (t.str = [123] ∨ t.str = [125]))

def CovOK (lines : List (List Nat)) (ts : List Tok5) : Prop := ∀ t ∈ ts, Covered t → TokSrc lines t

theorem CovOK.single {lines : List (List Nat)} {t : Tok5} (h : Covered t → TokSrc lines t) : CovOK lines [t] :=
  List.forall_mem_singleton.mpr h

theorem FstrTok.not_covered {t : Tok5} (h : FstrTok t) : ¬ Covered t :=
  fun hc => h.elim hc.1 fun h => h.elim hc.2.1 hc.2.2

/-- the tokens of `ts` are source slices: all of them if `C` holds, the `Covered` ones in any case -/
def SrcOK (C : Prop) (lines : List (List Nat)) (ts : List Tok5) : Prop := ∀ t ∈ ts, C ∨ Covered t → TokSrc lines t

theorem SrcOK.nil (C : Prop) (lines : List (List Nat)) : SrcOK C lines [] := List.forall_mem_nil _
theorem SrcOK.append {a b : List Tok5} (ha : SrcOK C lines a) (hb : SrcOK C lines b) :
    SrcOK C lines (a ++ b) := List.forall_mem_append.mpr ⟨ha, hb⟩
theorem SrcOK.all {ts : List Tok5} (h : ∀ t ∈ ts, TokSrc lines t) : SrcOK C lines ts :=
  fun t ht _ => h t ht
theorem SrcOK.single {t : Tok5} (h : TokSrc lines t) : SrcOK C lines [t] :=
  .all (List.forall_mem_singleton.mpr h)

theorem line_tok_src {st : TState} (hl : LineOK lines st) {ty : TT} {str l : List Nat} {c1 c2 : Nat}
    (h12 : c1 ≤ c2) (h2 : c2 ≤ st.max) (hs : str = slice st.line c1 c2) : TokSrc lines ⟨ty, str, ⟨st.lnum, c1⟩, ⟨st.lnum, c2⟩, l⟩ :=
  hs.trans (slice_src lines st c1 c2 hl h12 h2)

theorem empty_src (lines : List (List Nat)) (t : Tok5) (hs : t.str = []) (h : t.start = t.stop) : TokSrc lines t := by
  unfold TokSrc srcText; rw [hs, h]; simp

theorem EmitMid.src {st s : TState} {me : Nat} {p : EndProg} {rest : List EndProg} {mid : List Tok5}
    (hl : LineOK lines st) (ht : TextAt lines p (cur st)) (hpe : st.pos ≤ me) (hme : me ≤ st.max) (h : EmitMid st me p rest mid s) :
    (∀ t ∈ mid, TokSrc lines t) ∧ s.pos = me ∧ s.lnum = st.lnum := by
  cases h with
  | skip hle _ => exact ⟨List.forall_mem_nil _, Nat.le_antisymm hpe hle, rfl⟩
  | emit => exact ⟨List.forall_mem_singleton.mpr (text_extend hl ht hpe hme).1, rfl, rfl⟩

/-- The tokens of the f-string scanner.  The pattern consumed at least the delimiter `w` (`FstrLen`), so the literal
    text before it ends at or after the scan position; its match ends with `w` (`FstrEnds`), so `w` is the source there. -/
theorem FstrHit.src {st s : TState} {p : EndProg} {rest : List EndProg} {ts : List Tok5}
    (hF : FstrLen P) (hE : FstrEnds P) (hl : LineOK lines st) (hok : ProgOK p) (ht : TextAt lines p (cur st))
    (h : FstrHit E P st p rest ts s) : ∀ t ∈ ts, TokSrc lines t := by
  obtain ⟨w, r, e, mid, s1, ty, hd, hr, hem, rfl, _⟩ := h.delim hok
  have hlen := hr.minLen_le
  have hwl := hF.delim hd
  have hbd : e ≤ st.max := hl.max ▸ hr.le_size (hl.max ▸ hl.pos)
  obtain ⟨_, hsuf2⟩ := of_decide_eq_true (hr.endsWith (hE.delim hd))
  obtain ⟨a, ep1, ep2⟩ := hem.src hl ht (by omega) (by omega)
  refine List.forall_mem_append.mpr ⟨a, List.forall_mem_singleton.mpr ?_⟩
  rw [ep1, ep2]
  exact line_tok_src hl (Nat.sub_le _ _) hbd hsuf2.symm

theorem FstrHit.ft {st s : TState} {p : EndProg} {rest : List EndProg} {ts : List Tok5}
    (hft : FT C lines st) (hst : st.endProgs = p :: rest) (h : FstrHit E P st p rest ts s) : FT C lines s := by
  obtain ⟨hadv, hle'⟩ := h.adv hft.line.inLine
  obtain ⟨hv', _, htop⟩ := h.shape hst hft.shape
  exact ⟨hft.line.of_adv hadv hle', hv', (top_restarted htop).textAt⟩

theorem EndStep.src {st st' : TState} {ts : List Tok5}
    (hC : C → FstrLen P ∧ FstrEnds P) (hft : FT C lines st) (h : EndStep E P st ts st') : SrcOK C lines ts ∧ FT C lines st' := by
  obtain ⟨hadv, hle'⟩ := h.adv hft.line.inLine
  have hl' := hft.line.of_adv hadv hle'
  have hv' := (h.shape hft.shape).1
  cases h with
  | idle => exact ⟨.nil _ _, hft⟩
  | @fstring p rest _ _ hst hk hit =>
    refine ⟨fun t ht hc => ?_, hit.ft hft hst⟩
    have c := hc.resolve_right (hit.kinds t ht).not_covered
    exact hit.src (hC c).1 (hC c).2 hft.line (hst ▸ hft.shape : Shape (p :: rest)).ok
      (hft.top p rest hst (.inr ⟨c, hk.elim isM_notB isC_notB⟩)) t ht
  | @string p rest g e hst hN hm =>
    -- the closing quote of a plain string was found on this line; what lies below a plain string is a `{`-prog
    obtain ⟨hge, hbd⟩ := hit_bounds hft.line.inLine hm
    have hsh : Shape (p :: rest) := hst ▸ hft.shape
    refine ⟨.single (text_extend hft.line (hft.top p rest hst (.inl hN)) hge hbd).1, hl', hv', fun q more hq hq' => ?_⟩
    exact Bool.noConfusion ((((show rest = q :: more from hq) ▸ hsh).below_notB (isN_notB hN)).symm.trans hq'.notB)
  | @join p rest hst hB =>
    refine ⟨.nil _ _, hl', hv', fun q more hq hq' => ?_⟩
    cases hq
    show _ ++ slice st.line st.pos st.line.size = srcText lines p.start ⟨st.lnum, st.max⟩ ∧ _ ≤ off lines ⟨st.lnum, st.max⟩
    rw [← hft.line.max]
    exact text_extend hft.line (hft.top p rest hst hq') hft.line.pos (Nat.le_refl _)

/-- the master pattern's token is a piece of the line; a string or f-string it opens starts with a piece of the line,
    and what a closing bracket or a `:` brings to the top has just been restarted -/
theorem PseudoMatch.src {st st' : TState} {tok : Option Tok5}
    (hft : FT C lines st) (hpre : PseudoPre st) (h : PseudoMatch E P st tok st') :
    (∀ t, tok = some t → TokSrc lines t) ∧ FT C lines st' := by
  obtain ⟨hadv, hpm⟩ := h.adv hft.line.inLine
  have hl' := hft.line.of_adv hadv hpm
  have hv' := h.shape hft.shape hpre
  cases h with
  | idle => exact ⟨fun _ => nofun, hft⟩   -- `nofun` alone splits the token into its cases first
  | @hit g e _ _ hnmax hnM hm hs =>
    have hB : TopB st := hpre.topB hnmax hnM
    obtain ⟨hge, hbd⟩ := hit_bounds hft.line.inLine hm
    have hl : LineOK lines { st with pos := e } := ⟨hft.line.one, hft.line.cur, hft.line.max, hbd⟩
    refine ⟨fun t ht => ?_, hl', hv', ?_⟩
    · obtain ⟨ty, rfl⟩ := (ht ▸ hs).tok
      exact line_tok_src hl hge hbd rfl
    cases hs with
    | fstring => exact fun q more hq _ => by cases hq; exact addProg_text lines _ e e _ _ _ hl (Nat.le_refl _) hbd
    | string => exact fun q more hq _ => by cases hq; exact addProg_text lines _ st.pos e _ _ _ hl hge hbd
    | plain | continuation => exact (FT.same (C := C) hl' hft.shape hB rfl).top
    | op =>
      intro q more hq hq'
      rw [show cur _ = (⟨st.lnum, e⟩ : Pos) by simp only [cur, hadv.lnum, (specialAction_step _ _ _).adv.2]]
      exact ((specialAction_step _ _ e).restart (st := { st with pos := e }) hft.shape hB (hft.line.max ▸ hbd)).textAt q more hq hq'

theorem errortoken_src {st : TState} (hl : LineOK lines st) (hlt : st.pos < st.max) : TokSrc lines (errTok st) := by
  have hsz : st.pos < st.line.size := hl.max ▸ hlt
  refine line_tok_src hl (Nat.le_succ _) hlt ?_
  rw [slice_eq, show st.pos + 1 - st.pos = 1 by omega, List.drop_eq_getElem_cons (by simpa using hsz)]
  simp [Array.getElem?_eq_getElem hsz]

theorem ScanIter.src {st st' : TState} {ts : List Tok5}
    (hP : PseudoProgress P) (hC : C → FstrLen P ∧ FstrEnds P) (hft : FT C lines st) (h : ScanIter E P st ts st') :
    SrcOK C lines ts ∧ FT C lines st' := by
  obtain ⟨hadv, hle'⟩ := h.adv hft.line.inLine
  cases h with
  | turn _ he hp =>
    obtain ⟨s1, f1⟩ := he.src hC hft
    obtain ⟨k, f2⟩ := hp.src f1 (he.pre hft.shape)
    exact ⟨s1.append (.all fun t ht => k t (Option.mem_toList.mp ht)), f2⟩
  | @err ts1 st1 st2 hlt he hp heq =>
    obtain ⟨s1, f1⟩ := he.src hC hft
    obtain ⟨_, f2⟩ := hp.src f1 (he.pre hft.shape)
    have hmax : st2.max = st.max := by rw [← hadv.max]
    refine ⟨s1.append (.single (errortoken_src f2.line (by omega))), hft.line.of_adv hadv hle', f2.shape, fun q more hq hq' => ?_⟩
    -- no token and no move: on top is a `{`-prog, nothing, or a literal part restarted by a `}` that consumed nothing -
    -- which `FstrLen` excludes, and without it literal parts are not followed
    rcases scan_stuck hP hft.line.inLine hft.shape he hp heq hlt with hB | ⟨⟨m, more', hm, hM, _⟩, hlen⟩
    · exact (hB.fresh _).textAt q more hq hq'
    · rw [hm] at hq; cases hq
      have := (hC (hq'.resolve_left fun hN => by rw [isM_notN hM] at hN; cases hN).1).1.rbrace
      omega

theorem Scan.src {st st' : TState} {ts : List Tok5}
    (hP : PseudoProgress P) (hC : C → FstrLen P ∧ FstrEnds P) (hft : FT C lines st) (h : Scan E P st ts st') :
    SrcOK C lines ts ∧ FT C lines st' ∧ st'.pos = st'.max := by
  obtain ⟨a, b⟩ := h.fold (I := fun s acc => SrcOK C lines acc ∧ FT C lines s)
    (fun ⟨ha, hf⟩ h => ⟨ha.append (h.src hP hC hf).1, (h.src hP hC hf).2⟩) ⟨.nil _ _, hft⟩
  exact ⟨a, b, (h.adv hft.line.inLine).2.2⟩

theorem StmtStep.src {st s : TState} {col pos : Nat} {ts : List Tok5} {a : StmtAction}
    (hl : LineOK lines st) (hpos : pos ≤ st.max) (h : StmtStep st col pos ts s a) : ∀ t ∈ ts, TokSrc lines t := by
  have hsz : st.line.toList.length = st.max := by rw [hl.max]; simp
  have to_end : ∀ k, st.line.toList.drop k = slice st.line k st.max := fun k => by
    rw [slice_eq, List.take_of_length_le (by simp [hl.max])]
  cases h with
  | eof | blankEnd => exact List.forall_mem_nil _
  | comment =>
    have hlen : (rstripNewlines (st.line.toList.drop pos)).length ≤ st.max - pos := by
      have := rstripNewlines_len (st.line.toList.drop pos)
      rwa [List.length_drop, hsz] at this
    refine List.forall_mem_cons.mpr ⟨?_, List.forall_mem_singleton.mpr ?_⟩
    · refine line_tok_src hl (Nat.le_add_right _ _) (by omega) ?_
      rw [slice_eq, Nat.add_sub_cancel_left]
      exact List.prefix_iff_eq_take.mp (rstripNewlines_prefix _)
    · rw [hsz]; exact line_tok_src hl (by omega) (Nat.le_refl _) (to_end _)
  | blank => rw [hsz]; exact List.forall_mem_singleton.mpr (line_tok_src hl hpos (Nat.le_refl _) (to_end _))
  | indent => exact List.forall_mem_singleton.mpr (line_tok_src hl (Nat.zero_le _) hpos (by rw [slice_eq]; simp))
  | dedent => exact fun t ht => List.eq_of_mem_replicate ht ▸ empty_src lines _ rfl rfl

theorem HeadScan.src {st s : TState} {ts : List Tok5}
    (hC : C → FstrLen P ∧ FstrEnds P) (hft : FT C lines st) (h : HeadScan E P st ts s) : SrcOK C lines ts ∧ FT C lines s := by
  -- with an empty stack there is no text to follow
  have mkFT : s.endProgs = [] → FT C lines s := fun hn =>
    ⟨h.lineOK hft.line, hn ▸ trivial, fun p rest hp => by rw [hn] at hp; cases hp⟩
  cases h with
  | progs _ he => exact he.src hC hft.continued
  | stmt hnil hs => exact ⟨.all (hs.src hft.line (hft.line.stmt_pos _)), mkFT (hs.progs.trans hnil)⟩
  | inside hnil => exact ⟨.nil _ _, mkFT hnil⟩

theorem prev_off (lines : List (List Nat)) (st : TState) (hprev : PrevOK lines st) :
    off lines ⟨st.lnum, st.line.toList.length⟩ = off lines ⟨st.lnum + 1, 0⟩ := by
  rcases hprev with ⟨h0, hnil⟩ | ⟨h1, hcur⟩
  · rw [h0, hnil]; simp [off, prefixLen]
  · exact off_line_end lines st.lnum st.line.toList h1 hcur

theorem nextEndTokens_src (lines : List (List Nat)) (hnl : NonLastEndNL lines) (st s : TState)
    (hprev : PrevOK lines st) (hlnum : s.lnum = st.lnum + 1) : ∀ t ∈ nextEndTokens st.line.toList st.commentLine s, TokSrc lines t := by
  obtain ⟨nl, h, hnl'⟩ := nextEndTokens_eq st.line.toList st.commentLine s
  rw [h]
  refine List.forall_mem_append.mpr ⟨List.forall_mem_append.mpr
    ⟨?_, fun t ht => List.eq_of_mem_replicate ht ▸ empty_src lines _ rfl rfl⟩, List.forall_mem_singleton.mpr (empty_src lines _ rfl rfl)⟩
  rcases hnl' with rfl | ⟨rfl, hne, h10⟩
  · exact List.forall_mem_nil _
  -- the implicit NEWLINE after a last line without line end: that line's end is the end of the text
  have hend := prev_off lines st hprev
  rcases hprev with ⟨_, hnil⟩ | ⟨h1, hcur⟩
  · exact absurd hnil hne
  have hlast : lines.length ≤ st.lnum := Nat.le_of_not_lt fun hlt => h10 (hnl (st.lnum - 1) st.line.toList hcur (by omega))
  refine List.forall_mem_singleton.mpr ?_
  unfold TokSrc srcText
  have hoff : off lines ⟨s.lnum - 1, st.line.toList.length⟩ = lines.flatten.length := by
    rw [hlnum, Nat.add_sub_cancel, hend, off_end lines hlast]
  show [] = _
  rw [show (newlineTok (s.lnum - 1) st.line.toList.length).start = ⟨s.lnum - 1, st.line.toList.length⟩ from rfl, hoff,
    List.drop_of_length_le (Nat.le_refl _)]
  simp

theorem LineIter.src {st s : TState} {l : List Nat} {ts : List Tok5}
    (hP : PseudoProgress P) (hC : C → FstrLen P ∧ FstrEnds P) (hb : BT C lines st) (hl : lines[st.lnum]? = some l)
    (hi : LineIter E P st l ts s) : SrcOK C lines ts ∧ BT C lines s := by
  have hft0 := ft_of_bt hb hl
  cases hi with
  | skip hh =>
    exact ⟨.all (hh.stmt.src hft0.line (hft0.line.stmt_pos _)), hh.after ▸ trivial, fun p r hp => by rw [hh.after] at hp; cases hp⟩
  | scan hh hs =>
    obtain ⟨a, f⟩ := hh.src hC hft0
    obtain ⟨a2, f2, hend⟩ := hs.src hP hC f
    exact ⟨a.append a2, bt_of_ft f2 hend⟩

/-- **the line loop**: with the certificates on the f-string patterns (`C := True`) every token it emits is the source
    between its coordinates; without them (`C := False`) every `Covered` token -/
theorem Lines.src (hnl : NonLastEndNL lines) (hP : PseudoProgress P) (hC : C → FstrLen P ∧ FstrEnds P)
    {rest : List (List Nat)} {st : TState} {ts : List Tok5} (h : Lines E P rest st ts)
    (hrest : rest = lines.drop st.lnum) (hprev : PrevOK lines st) (hb : BT C lines st) : SrcOK C lines ts :=
  h.fold (lines := lines) (Q := SrcOK C lines) (I := fun st acc => BT C lines st ∧ SrcOK C lines acc)
    (fun ⟨hb, hacc⟩ hl hi => ⟨(hi.src hP hC hb hl).2, hacc.append (hi.src hP hC hb hl).1⟩)
    (fun ⟨_, hacc⟩ hprev hh => hacc.append (.all (nextEndTokens_src lines hnl _ _ hprev hh.stmt.frame.1)))
    hrest hprev ⟨hb, .nil _ _⟩

end XV.Tz
