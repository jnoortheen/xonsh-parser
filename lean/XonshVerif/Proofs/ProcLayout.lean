/-
  A command line described by its layout (gap, tokens of the word) and the pieces the parser
  sees for it; lemmas for `words_are_source_words` (C06).
-/
import XonshVerif.Proofs.ProcArgs
namespace XV

/-- The contiguous tokens of one word starting at column `c` of line `ln` (it ends at column `wordEnd c ts`). -/
def wordToks (ln : Nat) : Nat → List (List Nat) → List Piece
  | _, [] => []
  | c, t :: ts => .tok t ⟨ln, c⟩ ⟨ln, c + t.length⟩ :: wordToks ln (c + t.length) ts

def wordEnd (c : Nat) (ts : List (List Nat)) : Nat := c + ts.flatten.length

/-- A command: words, each preceded by `gap` blanks. -/
def cmdToks (ln : Nat) : Nat → List (Nat × List (List Nat)) → List Piece
  | _, [] => []
  | c, (gap, ts) :: ws => wordToks ln (c + gap) ts ++ cmdToks ln (wordEnd (c + gap) ts) ws

theorem tokStrs_wordToks (ln c : Nat) (ts : List (List Nat)) : tokStrs (wordToks ln c ts) = some ts := by
  induction ts generalizing c with
  | nil => rfl
  | cons t ts ih => simp [wordToks, tokStrs, ih]

/-- the next piece, if any, does not start at `p` -/
def headStartNe (rest : List Piece) (p : Pos) : Prop :=
  match rest with
  | [] => True
  | q :: _ => q.start ≠ p

theorem takeRun_word (ln c : Nat) (ts : List (List Nat)) (rest : List Piece)
    (h : headStartNe rest ⟨ln, wordEnd c ts⟩) :
    takeRun ⟨ln, c⟩ (wordToks ln c ts ++ rest) = (wordToks ln c ts, rest) := by
  induction ts generalizing c with
  | nil =>
    cases rest with
    | nil => simp [wordToks, takeRun]
    | cons q qs =>
      simp only [headStartNe, wordEnd, List.flatten_nil, List.length_nil, Nat.add_zero] at h
      simp [wordToks, takeRun, Ne.symm h]
  | cons t ts ih =>
    have h' : headStartNe rest ⟨ln, wordEnd (c + t.length) ts⟩ := by
      simpa [wordEnd, Nat.add_assoc] using h
    simp [wordToks, takeRun, Piece.start, Piece.stop, ih (c + t.length) h']

theorem cmdToks_headStart (ln c : Nat) (ws : List (Nat × List (List Nat)))
    (hgap : ∀ w ∈ ws, 1 ≤ w.1) (hne : ∀ w ∈ ws, w.2 ≠ []) :
    headStartNe (cmdToks ln c ws) ⟨ln, c⟩ := by
  cases ws with
  | nil => simp [cmdToks, headStartNe]
  | cons w ws =>
    obtain ⟨gap, ts⟩ := w
    have hg : 1 ≤ gap := hgap (gap, ts) (by simp)
    have hts : ts ≠ [] := hne (gap, ts) (by simp)
    cases ts with
    | nil => exact absurd rfl hts
    | cons t ts =>
      simp only [cmdToks, wordToks, List.cons_append, headStartNe, Piece.start]
      intro hc
      injection hc with _ hcol
      omega

end XV
