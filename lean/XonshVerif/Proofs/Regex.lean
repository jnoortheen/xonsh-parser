/-
  The back-tracking matcher `m` against a relational reading of the regular expressions: `Reach r p q` says
  that `r`, started at `p`, may hand position `q` to its continuation.  One induction over the matcher (`m_rel`)
  gives the two facts that carry every static analysis of the development: the result of `m` depends on the
  continuation only at reachable positions (`m_congr`), and a `matched` answer is the continuation's answer at one
  (`m_matched`).  A sound analysis is then an induction over `Reach`, with no matcher, fuel or continuation in sight,
  and reaches the matches through `matchAt_reach`.
-/
import XonshVerif.Model.Regex
import XonshVerif.Proofs.ListAux
namespace XV.Rx

/-- `m .. k = m .. (restrict P k)` says, of the matcher itself, that it hands on only positions satisfying `P`: the form in
    which `m_fixedLen`, `m_endsWith` and `m_onlyChars` state their analyses (`m_restrict`).  The development uses the
    `Reach` forms of these facts and their `matchAt_*` corollaries. -/
def restrict (p : Nat → Bool) (k : Nat → MR) : Nat → MR := fun q => if p q then k q else .noMatch

/-- The positions a match of `r` from `p` may end at.  Ordered choice, greediness and the outcome of a
    look-ahead are forgotten: the relation over-approximates `m`, which is what soundness needs. -/
inductive Reach (E : Env) (s : Array Nat) : Re → Nat → Nat → Prop
  | eps {p} : Reach E s .eps p p
  | chr {c p} : s[p]? = some c → Reach E s (.chr c) p (p + 1)
  | notChr {c d p} : s[p]? = some d → d ≠ c → Reach E s (.notChr c) p (p + 1)
  | any {d p} : s[p]? = some d → d ≠ 10 → Reach E s .any p (p + 1)
  | set {neg items d p} : s[p]? = some d → (items.any (·.has E d) != neg) = true →
      Reach E s (.set neg items) p (p + 1)
  | seq {a b p q e} : Reach E s a p q → Reach E s b q e → Reach E s (.seq a b) p e
  | altL {a b p q} : Reach E s a p q → Reach E s (.alt a b) p q
  | altR {a b p q} : Reach E s b p q → Reach E s (.alt a b) p q
  | starNil {g r p} : Reach E s (.star g r) p p
  | starCons {g r p q e} : Reach E s r p q → p < q → Reach E s (.star g r) q e → Reach E s (.star g r) p e
  | look {neg r p} : Reach E s (.look neg r) p p
  | eoi {p} : p = s.size → Reach E s .eoi p p

variable {E : Env} {s : Array Nat}

/-- The one induction over the matcher.  All that `m` does with its continuation is to ask it at positions `r` can reach
    from `pos` and to hand on one of its answers, or to answer `noMatch` / `fuelOut` itself.  So two continuations that agree at
    those positions give the same result, and what holds of every answer there (and of `noMatch`, `fuelOut`) holds of the result. -/
theorem m_rel {P : MR → Prop} (hn : P .noMatch) (hf : P .fuelOut) : ∀ (fuel : Nat) (r : Re) (pos : Nat) (k k' : Nat → MR),
    (∀ q, Reach E s r pos q → k q = k' q ∧ P (k q)) → m E s fuel r pos k = m E s fuel r pos k' ∧ P (m E s fuel r pos k) := by
  intro fuel
  induction fuel with
  | zero => intros; exact ⟨rfl, hf⟩
  | succ fuel ih =>
    intro r pos k k' h
    -- `match x with | .noMatch => y | other => other`, the shape of `alt` and `star`
    have orElse : ∀ {x x' y y' : MR}, x = x' ∧ P x → y = y' ∧ P y →
        (match x with | .noMatch => y | o => o) = (match x' with | .noMatch => y' | o => o) ∧ P (match x with | .noMatch => y | o => o) := by
      rintro x _ y _ ⟨rfl, px⟩ ⟨rfl, py⟩; exact ⟨rfl, by cases x <;> assumption⟩
    -- one more round of `body`, then the star again: the continuation of both star cases
    have star : ∀ g body, (∀ q, Reach E s (.star g body) pos q → k q = k' q ∧ P (k q)) → _ ∧ P _ :=
      fun g body h => ih body pos (fun p => if p > pos then m E s fuel (.star g body) p k else .noMatch)
        (fun p => if p > pos then m E s fuel (.star g body) p k' else .noMatch) fun p hp => by
          by_cases hlt : p > pos
          · rw [if_pos hlt, if_pos hlt]; exact ih _ p k k' fun q hq => h q (.starCons hp hlt hq)
          · rw [if_neg hlt, if_neg hlt]; exact ⟨rfl, hn⟩
    -- a test of the character at `pos`, then the continuation
    have leaf : ∀ {c : Prop} [Decidable c] (q : Nat), (c → Reach E s r pos q) →
        (if c then k q else .noMatch) = (if c then k' q else .noMatch) ∧ P (if c then k q else .noMatch) := by
      intro c _ q hq
      by_cases hc : c
      · rw [if_pos hc, if_pos hc]; exact h q (hq hc)
      · rw [if_neg hc, if_neg hc]; exact ⟨rfl, hn⟩
    cases r with
    | eps => exact h pos .eps
    | chr c => exact leaf _ .chr
    | notChr c =>
      simp only [m]; split
      · exact leaf _ (.notChr ‹_›)
      · exact ⟨rfl, hn⟩
    | any =>
      simp only [m]; split
      · exact leaf _ (.any ‹_›)
      · exact ⟨rfl, hn⟩
    | set neg items =>
      simp only [m]; split
      · exact leaf _ (.set ‹_›)
      · exact ⟨rfl, hn⟩
    | seq a b => exact ih a pos _ _ fun p hp => ih b p k k' fun q hq => h q (.seq hp hq)
    | alt a b => exact orElse (ih a pos k k' fun q hq => h q (.altL hq)) (ih b pos k k' fun q hq => h q (.altR hq))
    | star g body =>
      cases g
      · exact orElse (h pos .starNil) (star _ body h)
      · exact orElse (star _ body h) (h pos .starNil)
    | look neg body =>
      obtain ⟨e, p⟩ := h pos .look
      simp only [m]; rw [← e]; refine ⟨rfl, ?_⟩
      split
      · exact ite_ind (fun _ => hn) fun _ => p
      · exact ite_ind (fun _ => p) fun _ => hn
      · exact hf
    | eoi => exact leaf _ .eoi

theorem m_congr {fuel : Nat} {r : Re} {pos : Nat} {k k' : Nat → MR}
    (h : ∀ q, Reach E s r pos q → k q = k' q) : m E s fuel r pos k = m E s fuel r pos k' :=
  (m_rel (P := fun _ => True) trivial trivial fuel r pos k k' fun q hq => ⟨h q hq, trivial⟩).1

theorem m_matched {fuel : Nat} {r : Re} {pos : Nat} {k : Nat → MR} {e : Nat}
    (h : m E s fuel r pos k = .matched e) : ∃ q, Reach E s r pos q ∧ k q = .matched e :=
  (m_rel (P := fun x => x = .matched e → ∃ q, Reach E s r pos q ∧ k q = .matched e) nofun nofun fuel r pos k k
    fun q hq => ⟨rfl, fun hk => ⟨q, hq, hk⟩⟩).2 h

/-- from a fact about every reachable position to the same fact about the matcher -/
theorem m_restrict {r : Re} {pos : Nat} {P : Nat → Bool} (h : ∀ q, Reach E s r pos q → P q = true)
    (fuel : Nat) (k : Nat → MR) : m E s fuel r pos k = m E s fuel r pos (restrict P k) :=
  m_congr fun q hq => by simp [restrict, h q hq]

theorem matchAt_reach {fuel : Nat} {r : Re} {pos e : Nat} (h : matchAt E fuel r s pos = .matched e) :
    Reach E s r pos e := by
  obtain ⟨q, hq, he⟩ := m_matched h
  cases he; exact hq

theorem Reach.le {r : Re} {p q : Nat} (h : Reach E s r p q) : p ≤ q := by
  induction h with
  | chr | notChr | any | set => exact Nat.le_succ _
  | seq _ _ iha ihb => exact Nat.le_trans iha ihb
  | starCons _ hlt _ _ ihb => exact Nat.le_trans (Nat.le_of_lt hlt) ihb
  | altL _ ih | altR _ ih => exact ih
  | eps | starNil | look | eoi => exact Nat.le_refl _

theorem Reach.lt {r : Re} {p q : Nat} (h : Reach E s r p q) (hn : nonNull r = true) : p < q := by
  induction h with
  | seq ha hb iha ihb =>
    rcases Bool.or_eq_true _ _ ▸ (show (nonNull _ || nonNull _) = true from hn) with hn | hn
    · exact Nat.lt_of_lt_of_le (iha hn) hb.le
    · exact Nat.lt_of_le_of_lt ha.le (ihb hn)
  | altL _ ih => exact ih (Bool.and_eq_true _ _ ▸ (show (nonNull _ && nonNull _) = true from hn)).1
  | altR _ ih => exact ih (Bool.and_eq_true _ _ ▸ (show (nonNull _ && nonNull _) = true from hn)).2
  | chr | notChr | any | set => exact Nat.lt_succ_self _
  | eps | starNil | starCons | look | eoi => cases hn

theorem Reach.le_size {r : Re} {p q : Nat} (h : Reach E s r p q) (hp : p ≤ s.size) : q ≤ s.size := by
  induction h with
  | chr h | notChr h | any h | set h => exact (Array.getElem?_eq_some_iff.mp h).1
  | seq _ _ iha ihb => exact ihb (iha hp)
  | starCons _ _ _ iha ihb => exact ihb (iha hp)
  | altL _ ih | altR _ ih => exact ih hp
  | eps | starNil | look | eoi => exact hp

theorem matchAt_ge (E : Env) (fuel : Nat) (r : Re) (s : Array Nat) (pos e : Nat)
    (h : matchAt E fuel r s pos = .matched e) : pos ≤ e :=
  (matchAt_reach h).le

theorem matchAt_gt (E : Env) (fuel : Nat) (r : Re) (s : Array Nat) (pos e : Nat)
    (hn : nonNull r = true) (h : matchAt E fuel r s pos = .matched e) : pos < e :=
  (matchAt_reach h).lt hn

theorem matchAt_le_size (E : Env) (fuel : Nat) (r : Re) (s : Array Nat) (pos e : Nat)
    (hpos : pos ≤ s.size) (h : matchAt E fuel r s pos = .matched e) : e ≤ s.size :=
  (matchAt_reach h).le_size hpos

end XV.Rx
