/-
  C10 — f-strings: the bracket structure of the f-string tokens (`Lines.fbal`, Proofs/FstringBalance, applied to
  the run of a finished `tokenize`).
-/
import XonshVerif.Proofs.FstringBalance
namespace XV.Tz
open XV XV.Rx

-- the balance needs no certificate on the patterns: `hP` is a hypothesis the proof does not use
set_option linter.unusedVariables false in
/-- **fstring_tokens_balanced.**  For every pattern set with progressing pseudo-token branches, every environment and
    every text on which the tokenizer finishes: reading FSTRING_START as an opening and FSTRING_END as a closing bracket,
    the token stream is balanced - no FSTRING_END without an open FSTRING_START in any prefix (`fdepthAfter` never
    undefined), every f-string closed at the end.  Nested f-strings (an f-string inside a replacement field) nest properly.
    Invariant: the f-strings left open by the tokens emitted so far are exactly the middle-mode records on the mode stack
    (fields and format specs, which sit on top of them, are never mistaken for one: the shape of the stack, Proofs/TokStack). -/
theorem fstring_tokens_balanced (E : Env) (P : Pats) (hP : PseudoProgress P) (src : List Nat)
    (hfin : (tokenize E P src).err = none) : fdepthAfter 0 (tokenize E P src).toks = some 0 := by
  exact (tokenize_lines hfin).fbal (acc := []) trivial rfl

/-- every prefix of a finished stream has at least as many FSTRING_STARTs as FSTRING_ENDs -/
theorem fstring_prefix_depth_defined (E : Env) (P : Pats) (hP : PseudoProgress P) (src : List Nat) (hfin : (tokenize E P src).err = none)
    (pre suf : List Tok5) (hsplit : (tokenize E P src).toks = pre ++ suf) : ∃ d, fdepthAfter 0 pre = some d := by
  have h := fstring_tokens_balanced E P hP src hfin
  rw [hsplit, fdepthAfter_append] at h
  obtain ⟨d, hd, _⟩ := Option.bind_eq_some_iff.mp h
  exact ⟨d, hd⟩

/-- Non-vacuity (tiny pattern set): `f'a{f'b'}c'` - an f-string nested in a field of another: depth 2 after the inner
    FSTRING_START, 0 at the end. -/
def fPats : Pats :=
  { pseudo := [("StringStart", .seq (.chr 102) (.chr 39)), ("Name", .plus true (.set false [.word])), ("NL", .chr 10), ("Special", .alt (.chr 123) (.chr 125))],
    endpats := [("'", .seq (.star false (.set true [.lit 39])) (.chr 39))],
    startLBrace := [("'", .seq (.star false (.set true [.lit 39, .lit 123])) (.chr 123))], endRBrace := .eps, tabsize := 8 }
def fSrc : List Nat := [102, 39, 97, 123, 102, 39, 98, 39, 125, 99, 39, 10]

example : (tokenize ⟨[], []⟩ fPats fSrc).err = none := by decide +kernel
example : ((tokenize ⟨[], []⟩ fPats fSrc).toks.map (·.ty)).filter (fun t => t = .FSTRING_START || t = .FSTRING_END) =
    [.FSTRING_START, .FSTRING_START, .FSTRING_END, .FSTRING_END] := by decide +kernel

end XV.Tz
