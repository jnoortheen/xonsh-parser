/-
  C11 - the hypothesis of `error_wellformed` discharged for every error raised over a range of tokens:
  tokenizer bounds (`token_starts_in_text`) + tokenizer order (`tokens_in_position_order`) + token source (`kept_sublist`)
  + `_build_syntax_error` (`error_wellformed`).
-/
import XonshVerif.Properties.C04Span
import XonshVerif.Proofs.TokBounds
import XonshVerif.Model.Helpers
namespace XV.Tz
open XV XV.Rx

-- no certificate on the patterns is needed: `hP` is a hypothesis the proof does not use
set_option linter.unusedVariables false in
/-- **token_starts_in_text.**  On every text the tokenizer finishes on, every token starts on a line of the text (or on
    the line right after the last one) at a column no larger than that line's length. -/
theorem token_starts_in_text (E : Env) (P : Pats) (hP : PseudoProgress P) (src : List Nat) (hfin : (tokenize E P src).err = none) :
    ∀ t ∈ (tokenize E P src).toks, StartOK (splitLines src []) t.start := by
  exact (tokenize_lines hfin).bounds (lines := splitLines src []) (st := TState.init) (ProgsOK.of_nil rfl) (.init _)

/-- **token_range_error_wellformed.**  For every pattern set passing the tokenizer certificates and every text the tokenizer
    finishes on: an error built by `_build_syntax_error` from the start of a token the parser sees to the end of the same or a
    later one - what `raise_syntax_error_known_location / _known_range / _starting_from` do with tokens, and with nodes whose
    spans come from `Parser.span` - has a line number between 1 and one past the last line, a 1-based column at most the
    line's length plus one, an end not before the start, and a text that begins with the source line at the reported line. -/
theorem token_range_error_wellformed (E : Env) (P : Pats) (hP : PseudoProgress P) (hF : FstrLen P) (src : List Nat)
    (hfin : (tokenize E P src).err = none) (i j : Nat) (hij : i ≤ j) (a b : Tok5)
    (ha : (Src.kept E (tokenize E P src).toks)[i]? = some a) (hb : (Src.kept E (tokenize E P src).toks)[j]? = some b) :
    let lines : Nat → List Nat := fun k => (splitLines src [])[k - 1]?.getD []
    let e := Helpers.buildError lines a.start b.stop
    1 ≤ e.lineno ∧ e.lineno ≤ (splitLines src []).length + 1 ∧ 1 ≤ e.offset ∧ e.offset ≤ (lines e.lineno).length + 1 ∧
    (e.lineno < e.endLineno ∨ (e.lineno = e.endLineno ∧ e.offset ≤ e.endOffset)) ∧
    ∃ t, e.text = lines e.lineno ++ t := by
  obtain ⟨hord, hself⟩ := tokens_in_position_order E P hP hF src hfin
  have hsub := Src.kept_sublist E (tokenize E P src).toks
  have hle := Span.start_le_stop_of_le _ (hord.sublist hsub) (fun t ht => hself t (hsub.subset ht)) i j hij a b ha hb
  have hin := token_starts_in_text E P hP src hfin a (hsub.subset (List.mem_of_getElem? ha))
  exact Helpers.error_wellformed _ (splitLines src []).length a.start b.stop hin.1 hin.2.1 hin.2.2 hle

end XV.Tz
