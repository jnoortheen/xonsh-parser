/-
  C15 — what must not change a result (recogniser level).  First half: `verbose` (`parse_verbose`, from the simulation of
  Proofs/PegVerbose through `parse_eq`), with a program on which the two runs really part.  Second half: lowering
  `py_version` (`py_version_monotone`, Proofs/PegGate; `py_version_irrelevant_above_all_gates`), with a gated rule.
-/
import XonshVerif.Proofs.PegVerbose
import XonshVerif.Proofs.PegGate
namespace XV.Peg
variable {prog : Prog}

/-- what `verbose` may change: nothing except the flag itself and the number of `reset` calls -/
def SameButVerbose (a b : St) : Prop :=
  a.pos = b.pos ∧ a.invalid = b.invalid ∧ a.cache = b.cache ∧ a.fetched = b.fetched ∧ a.fired = b.fired ∧
  a.assumed = b.assumed ∧ a.peeks = b.peeks ∧ a.nexts = b.nexts

theorem Sim.same {a b : St} (h : Sim a b) : SameButVerbose a b :=
  ⟨h.pos, h.invalid, h.cache, h.fetched, h.fired, h.assumed, h.peeks, h.nexts⟩

theorem execRule_verbose (w : Array RTok) (fuel id : Nat) (a b : St) (h : Sim a b) (hi : CacheInv prog a) :
    (execRule prog w fuel id a).1 = (execRule prog w fuel id b).1 ∧
    Sim (execRule prog w fuel id a).2 (execRule prog w fuel id b).2 ∧
    CacheInv prog (execRule prog w fuel id a).2 :=
  ((exec_sim (fun _ => False.elim) (sim_simRel prog w) (ProgLe.refl _ prog) fuel fuel (.inl rfl)).rule id a b ⟨h, hi⟩).resolve_left
    fun h => h

/-- Clause `verbose_inert` of DESIGN.md section 3.  For every program, token list, fuel and start rule, `Parser.parse` with
    `verbose=True` and with `verbose=False` produce the same outcome (tree / generic error with the same
    farthest token / specialised raise), the same first-pass result, and states that agree on position, cache
    contents, tokens fetched, alternatives fired, and peek/getnext counts — in the first pass and in the
    diagnostic pass.  Only the number of `reset` calls may differ (the slow path of `memoize_left_rec` does
    not reset on a cached failure, whose end mark is the position it was asked at). -/
theorem parse_verbose (w : Array RTok) (fuel start : Nat) :
    (parse prog w fuel start false).1 = (parse prog w fuel start true).1 ∧
    (parse prog w fuel start false).2.2.2 = (parse prog w fuel start true).2.2.2 ∧
    SameButVerbose (parse prog w fuel start false).2.1 (parse prog w fuel start true).2.1 ∧
    (match (parse prog w fuel start false).2.2.1, (parse prog w fuel start true).2.2.1 with
      | none, none => True
      | some x, some y => SameButVerbose x y
      | _, _ => False) := by
  have h := execRule_verbose (prog := prog) w fuel start _ _ (sim_init w.size false) (cacheInv_fresh (w.size + 1) _ rfl)
  generalize hx : execRule prog w fuel start (St.init w.size false false) = x at h
  generalize hx' : execRule prog w fuel start (St.init w.size false true) = x' at h
  obtain ⟨h1, h2, -⟩ := h
  have g := execRule_verbose (prog := prog) w fuel start _ _ (h2.map (·.second w)) (cacheInv_fresh (w.size + 1) _ rfl)
  generalize hy : execRule prog w fuel start (x.2.second w) = y at g
  generalize hy' : execRule prog w fuel start (x'.2.second w) = y' at g
  rw [parse_eq hx hy, parse_eq hx' hy', ← h1, ← g.1, h2.fetched]
  by_cases hc : (x.1.isAbort || x.1.isOk) = true
  · rw [if_pos hc, if_pos hc]; exact ⟨rfl, rfl, h2.same, trivial⟩
  -- `Eq.refl x.1`: given `rfl` the kernel compares the two tuples before it projects, and unfolds `execRule` to tell `y.2` from `y'.2`
  · rw [if_neg hc, if_neg hc]; exact ⟨rfl, Eq.refl x.1, h2.same, g.2.1.same⟩

/-- Non-vacuity: a left-recursive rule asked twice at a position where it fails.  The second call is a
    cache hit: the fast path resets, the slow path does not — the two runs really take different branches,
    and everything observable is nevertheless equal. -/
def lrProg : Prog := #[
  { deco := .leftrec, body := .alts [
      { items := [{ item := .call (.rule 0), opt := false }, { item := .call (.expect 7), opt := false }], act := .truthy, cut := false },
      { items := [{ item := .call (.expect 5), opt := false }], act := .truthy, cut := false }] false false },
  { deco := .memo, body := .alts [
      { items := [{ item := .call (.rule 0), opt := false }, { item := .call (.expect 8), opt := false }], act := .truthy, cut := false },
      { items := [{ item := .call (.rule 0), opt := false }, { item := .call (.expect 9), opt := false }], act := .truthy, cut := false }] false false }]
def lrW : Array RTok := #[{ ty := .NAME, strId := 3, isKw := false, isSoft := false }]

example : (parse lrProg lrW 30 1 false).2.1.resets ≠ (parse lrProg lrW 30 1 true).2.1.resets := by decide +kernel
example : (parse lrProg lrW 30 1 false).1 = .invalidSyntax 1 := by decide +kernel
example : (parse lrProg lrW 30 1 true).1 = .invalidSyntax 1 := by decide +kernel

/-- `gateProg v prog` is the program `Parser.parse` runs when the effective `py_version` is
    (3, v): every `self.check_version((3, m), ..)` action succeeds if m <= v and raises its SyntaxError otherwise.
    For every program, token list, fuel, start rule, verbosity and v <= v': the run under the lower version either raised
    a SyntaxError, or its complete result (outcome, first-pass result, final states of both passes: positions, cache,
    tokens fetched, alternatives fired, call counts) is identical to the run under the higher version.  So lowering the
    version can only turn a result into a raised error, never into a different tree or a different generic error. -/
theorem py_version_monotone (prog : Prog) (w : Array RTok) (fuel start : Nat) (verbose : Bool) (v v' : Nat) (h : v ≤ v') :
    (parse (gateProg v prog) w fuel start verbose).1 = .raised ∨
      parse (gateProg v prog) w fuel start verbose = parse (gateProg v' prog) w fuel start verbose :=
  parse_gate_mono prog w fuel start verbose v v' h

/-- the thresholds of all version gates of a program -/
def altGates (a : Alt) : List Nat := match a.act with | .gate m => [m] | _ => []
def ruleGates (r : Rule) : List Nat := match r.body with | .alts as _ _ => as.flatMap altGates | _ => []
def progGates (prog : Prog) : List Nat := prog.toList.flatMap ruleGates

/-- At or above every threshold the grammar contains the version is irrelevant: the resolved programs are equal, so
    every result is. -/
theorem py_version_irrelevant_above_all_gates (prog : Prog) (v v' : Nat) (hv : ∀ m ∈ progGates prog, m ≤ v) (hv' : ∀ m ∈ progGates prog, m ≤ v') :
    gateProg v prog = gateProg v' prog := by
  refine Array.map_congr_left fun r hr => ?_
  unfold gateRule gateBody
  cases hb : r.body with
  | alts as wo ul =>
    simp only [Rule.mk.injEq, Body.alts.injEq, and_true, true_and]
    refine List.map_congr_left fun a ha => gateAlt_saturated v v' a fun m hm => ?_
    have : m ∈ progGates prog :=
      List.mem_flatMap.mpr ⟨r, Array.mem_toList_iff.mpr hr, by rw [ruleGates, hb]; exact List.mem_flatMap.mpr ⟨a, ha, by simp [altGates, hm]⟩⟩
    exact ⟨hv m this, hv' m this⟩
  | _ => rfl

/-! Non-vacuity: rule 0 `S: 'type' NAME {gate 12} | NAME`.  On `type x` the version matters (raised below 12, a tree from
    12 on); on `x` it does not. -/
def gProg : Prog := #[
  { deco := .none, body := .alts [
      { items := [⟨.call (.expect 7), false⟩, ⟨.call .name, false⟩], act := .gate 12, cut := false },
      { items := [⟨.call .name, false⟩], act := .truthy, cut := false }] false false }]
def gTokType : RTok := { ty := .NAME, strId := 7, isKw := true, isSoft := false }
def gTokX : RTok := { ty := .NAME, strId := 1, isKw := false, isSoft := false }
def gTokEnd : RTok := { ty := .ENDMARKER, strId := 0, isKw := false, isSoft := false }
def gW1 : Array RTok := #[gTokType, gTokX, gTokEnd]
def gW2 : Array RTok := #[gTokX, gTokEnd]

example : (parse (gateProg 11 gProg) gW1 20 0 false).1 = .raised := by decide +kernel
example : (parse (gateProg 12 gProg) gW1 20 0 false).1 = .tree := by decide +kernel
example : (parse (gateProg 8 gProg) gW2 20 0 false).1 = .tree ∧ (parse (gateProg 13 gProg) gW2 20 0 false).1 = .tree := by decide +kernel
example : progGates gProg = [12] := by decide

end XV.Peg
