/-
  C09 — indentation columns: the loop at the head of `next_statement` computes the column of the language reference
  (a blank advances by one, a tab to the next multiple of the tab size, a form feed resets).  Property statements and proof.
-/
import XonshVerif.Model.Tokenize
namespace XV.Tz
open XV

def isIndentCh (c : Nat) : Bool := c = 32 || c = 9 || c = 12

/-- the language reference's column rule: a blank advances by one, a tab to the next multiple of the tab size, a form feed
    resets the count -/
def colStep (tabsize : Nat) (col c : Nat) : Nat :=
  if c = 32 then col + 1 else if c = 9 then (col / tabsize + 1) * tabsize else if c = 12 then 0 else col

def refColumn (tabsize : Nat) (ws : List Nat) (col : Nat) : Nat := ws.foldl (colStep tabsize) col

/-- a tab moves to the least multiple of the tab size that is greater than the current column -/
theorem tab_stop (t col : Nat) (ht : 0 < t) :
    col < (col / t + 1) * t ∧ (col / t + 1) * t % t = 0 ∧ (col / t + 1) * t ≤ col + t ∧
    ∀ m, col < m → m % t = 0 → (col / t + 1) * t ≤ m := by
  have h1 := Nat.div_add_mod col t
  have h2 := Nat.mod_lt col ht
  have h3 : (col / t + 1) * t = t * (col / t) + t := by rw [Nat.add_mul, Nat.one_mul, Nat.mul_comm]
  refine ⟨by omega, Nat.mul_mod_left _ _, by omega, fun m hm hmod => ?_⟩
  obtain ⟨k, rfl⟩ := Nat.dvd_of_mod_eq_zero hmod
  have hlt : col / t < k := by rw [Nat.div_lt_iff_lt_mul ht, Nat.mul_comm]; exact hm
  exact Nat.mul_comm t k ▸ Nat.mul_le_mul_right t hlt

def leadingIndent (line : Array Nat) (pos : Nat) : List Nat := (line.toList.drop pos).takeWhile isIndentCh

/-- one turn of the loop in the words of the reference: an indentation character moves the column by `colStep` -/
theorem measureIndent_succ (tabsize : Nat) (line : Array Nat) (fuel col pos : Nat) :
    measureIndent tabsize line (fuel + 1) col pos =
      match line[pos]? with
      | some c => if isIndentCh c then measureIndent tabsize line fuel (colStep tabsize col c) (pos + 1) else (col, pos)
      | none => (col, pos) := by
  rw [measureIndent]
  cases line[pos]? with
  | none => rfl
  | some c =>
    by_cases h32 : c = 32
    · subst h32; rfl
    by_cases h9 : c = 9
    · subst h9; rfl
    by_cases h12 : c = 12
    · subst h12; rfl
    simp [isIndentCh, h32, h9, h12]

theorem leadingIndent_eq (line : Array Nat) (pos : Nat) :
    leadingIndent line pos =
      match line[pos]? with
      | some c => if isIndentCh c then c :: leadingIndent line (pos + 1) else []
      | none => [] := by
  unfold leadingIndent
  rw [← Array.getElem?_toList, ← List.head?_drop]
  cases h : line.toList.drop pos with
  | nil => rfl
  | cons c rest =>
    have : line.toList.drop (pos + 1) = rest := by rw [← List.drop_drop, h]; rfl
    rw [this, List.takeWhile_cons]; rfl

/-- `measureIndent` (the loop at the head of `next_statement`) computes exactly the column of the
    language reference for the indentation characters in front of the first other character, and stops there. -/
theorem measureIndent_spec (tabsize : Nat) (line : Array Nat) : ∀ (fuel col pos : Nat), (leadingIndent line pos).length < fuel →
    measureIndent tabsize line fuel col pos =
      (refColumn tabsize (leadingIndent line pos) col, pos + (leadingIndent line pos).length)
  | 0, _, _, h => by omega
  | fuel + 1, col, pos, h => by
    rw [leadingIndent_eq] at h ⊢
    rw [measureIndent_succ]
    revert h
    cases line[pos]? with
    | none => exact fun _ => rfl
    | some c =>
      by_cases hi : isIndentCh c = true
      · simp only [hi, if_true, List.length_cons]
        intro h
        rw [measureIndent_spec tabsize line fuel _ _ (by omega), Nat.add_assoc, Nat.add_comm 1]; rfl
      · simp only [hi]; exact fun _ => rfl

/-- Non-vacuity: blank, tab, blank, form feed, two blanks in front of `x` with tab size 8: columns 1, 8, 9, 0, 1, 2. -/
example : measureIndent 8 #[32, 9, 32, 12, 32, 32, 120] 10 0 0 = (2, 6) := by decide
example : refColumn 8 [32, 9, 32] 0 = 9 := by decide

end XV.Tz
