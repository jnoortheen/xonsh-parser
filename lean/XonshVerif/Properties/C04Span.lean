/-
  C01 / C04 (spans): every node span the parser computes is well oriented.  A cross-module statement: tokenizer order
  (C08 `tokens_in_position_order`) + token source (`kept_sublist`: the parser sees a sub-sequence) + `Parser.span`
  (`span_end_is_last_significant_token`).
-/
import XonshVerif.Properties.C08
import XonshVerif.Model.TokenSource
import XonshVerif.Proofs.Span
namespace XV.Span
open XV XV.Tz XV.Rx

/-- in a list whose earlier elements end at or before the start of every later one, an element ends after the start of any
    earlier-or-equal one -/
theorem start_le_stop_of_le (toks : List Tok5) (hord : toks.Pairwise (fun a b => a.stop ≤ b.start))
    (hself : ∀ t ∈ toks, t.start ≤ t.stop) (i j : Nat) (hij : i ≤ j) (a b : Tok5) (ha : toks[i]? = some a) (hb : toks[j]? = some b) :
    a.start ≤ b.stop := by
  rcases Nat.lt_or_ge i j with hlt | hge
  · have hrel : a.stop ≤ b.start := by
      have hi := (List.getElem?_eq_some_iff.mp ha)
      have hj := (List.getElem?_eq_some_iff.mp hb)
      have := List.pairwise_iff_getElem.mp hord i j hi.1 hj.1 hlt
      rw [hi.2, hj.2] at this
      exact this
    have h1 := hself a (List.mem_of_getElem? ha)
    have h2 := hself b (List.mem_of_getElem? hb)
    exact Pos.le_trans' h1 (Pos.le_trans' hrel h2)
  · have : i = j := Nat.le_antisymm hij hge
    subst this
    rw [ha] at hb; injection hb with hb; subst hb
    exact hself a (List.mem_of_getElem? ha)

/-- For every pattern set passing the certificates of `tokens_in_position_order`, every
    environment and every text the tokenizer finishes on: let `toks` be the tokens the parser sees (the token source drops
    comments, blank tokens and NLs: `Src.kept`).  If a rule was entered at token `mark` and, up to the current index, has
    consumed at least one token that is not ENDMARKER / NEWLINE / INDENT / DEDENT, then the span `Parser.span` builds -
    from the start of token `mark` to the end of the last significant token before the index - has its start at or before
    its end. -/
theorem span_well_oriented (E : Env) (P : Pats) (hP : PseudoProgress P) (hF : FstrLen P) (src : List Nat)
    (hfin : (tokenize E P src).err = none) (mark index i : Nat) (t first last : Tok5)
    (hi : mark ≤ i ∧ i < index) (hti : (Src.kept E (tokenize E P src).toks)[i]? = some t) (hsig : structural t.ty = false)
    (hfirst : (Src.kept E (tokenize E P src).toks)[mark]? = some first)
    (hlast : (Src.kept E (tokenize E P src).toks)[lastNonWs ((Src.kept E (tokenize E P src).toks).map (·.ty)).toArray index]? = some last) :
    first.start ≤ last.stop := by
  obtain ⟨hord, hself⟩ := tokens_in_position_order E P hP hF src hfin
  have hsub := Src.kept_sublist E (tokenize E P src).toks
  have hord' := hord.sublist hsub
  have hself' : ∀ t ∈ Src.kept E (tokenize E P src).toks, t.start ≤ t.stop := fun t ht => hself t (hsub.subset ht)
  have hty : (((Src.kept E (tokenize E P src).toks).map (·.ty)).toArray)[i]? = some t.ty := by
    simp [hti]
  obtain ⟨hge, _, _, _⟩ := span_end_is_last_significant_token _ mark index i t.ty hi hty hsig
  exact start_le_stop_of_le _ hord' hself' mark _ hge first last hfirst hlast

end XV.Span
