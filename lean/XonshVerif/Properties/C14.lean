/-
  C14 — statements tokenize independently: the two composition theorems (over lines, over texts) with the short proofs
  that put Proofs/TokCompose together, and what the side conditions say about the text.
-/
import XonshVerif.Proofs.TokCompose
import XonshVerif.Proofs.SrcText
namespace XV.Tz
open XV XV.Rx

/-- what the tokens and the error of a text `B` become when `B` is read after `n` other lines -/
def after (n : Nat) (pre : List Tok5) : Except (Err × List Tok5) (List Tok5) → Except (Err × List Tok5) (List Tok5) :=
  emap (fun r => (shErr n r.1, pre ++ r.2.map (shTok n))) (fun ts => pre ++ ts.map (shTok n))

/-- **tokens_after_neutral_prefix (compositionality of the tokenizer).**  Let the lines `LA` be read
    from the initial state without error and leave the tokenizer in a neutral state (no open bracket,
    string, continuation or indentation), the last of them ending in a line break.  Then for EVERY
    continuation `LB` the tokenizer's result on `LA ++ LB` is its result on `LB` alone with every line
    coordinate (tokens and error position) moved down by the number of lines of `LA`, after the tokens of
    `LA`: nothing else of `LA` is remembered. -/
theorem tokens_after_neutral_prefix (E : Env) (P : Pats) (LA LB : List (List Nat)) (fuel : Nat)
    (sA : TState) (accA : List Tok5)
    (hrun : runLines E P LA TState.init [] = .ok (some (sA, accA)))
    (hn : Neutral sA) (hl : EndsInNewline sA.line.toList) :
    tokenizeLines E P (fuel + LA.length) (LA ++ LB) TState.init [] =
      after sA.lnum accA (tokenizeLines E P fuel LB TState.init []) := by
  rw [tokenizeLines_append E P LB fuel LA _ _ sA accA hrun, tokenizeLines_neutral E P fuel LB sA accA hn hl]
  have := tokenizeLines_after sA.lnum accA E P fuel LB TState.init []
  rwa [List.map_nil, List.append_nil] at this

-- no certificate on the patterns is needed: `hP` is a hypothesis the proof does not use
set_option linter.unusedVariables false in
/-- the line counter in that statement is the number of lines read, and the state holds the last of them:
    the side condition `EndsInNewline` is a condition on the TEXT of `LA` -/
theorem neutral_prefix_lines (E : Env) (P : Pats) (hP : PseudoProgress P) (LA : List (List Nat))
    (sA : TState) (accA : List Tok5) (hrun : runLines E P LA TState.init [] = .ok (some (sA, accA))) :
    sA.lnum = LA.length ∧ sA.line = (LA.getLast?.map List.toArray).getD #[] := by
  have := runLines_keeps E P LA TState.init [] sA accA hrun
  simpa [TState.init] using this

/-- The same at the level of texts: if `A` ends in a line feed and reading it leaves the tokenizer neutral, then
    `tokenize (A ++ B)` is the tokens of `A`'s lines followed by `tokenize B` moved down by the number of lines of `A`
    (tokens and error alike).  That the line the state holds ends in a line break need not be asked: it is the last line
    of `A` (`runLines_keeps`, `splitLines_last`). -/
theorem tokenize_append_neutral (E : Env) (P : Pats) (A B : List Nat) (hA : A.getLast? = some 10)
    (sA : TState) (accA : List Tok5)
    (hrun : runLines E P (splitLines A []) TState.init [] = .ok (some (sA, accA))) (hn : Neutral sA) :
    tokenizeLines E P ((splitLines (A ++ B) []).length + 2) (splitLines (A ++ B) []) TState.init [] =
      after sA.lnum accA (tokenizeLines E P ((splitLines B []).length + 2) (splitLines B []) TState.init []) := by
  have hl : EndsInNewline sA.line.toList := by
    obtain ⟨l, h1, h2⟩ := splitLines_last A hA []
    rw [(runLines_keeps E P _ _ _ sA accA hrun).2, h1]
    exact .inr (.inl h2)
  rw [splitLines_append A B hA []]
  have hf : (splitLines A [] ++ splitLines B []).length + 2 = ((splitLines B []).length + 2) + (splitLines A []).length := by
    simp only [List.length_append]; omega
  rw [hf]
  exact tokens_after_neutral_prefix E P _ _ _ sA accA hrun hn hl

-- `hl` follows from `hA`: a hypothesis the proof does not use
set_option linter.unusedVariables false in
/-- **tokenize_append.**  `tokenize_append_neutral` with the condition on the last line as a hypothesis. -/
theorem tokenize_append (E : Env) (P : Pats) (A B : List Nat) (hA : A.getLast? = some 10)
    (sA : TState) (accA : List Tok5)
    (hrun : runLines E P (splitLines A []) TState.init [] = .ok (some (sA, accA)))
    (hn : Neutral sA) (hl : EndsInNewline sA.line.toList) :
    tokenizeLines E P ((splitLines (A ++ B) []).length + 2) (splitLines (A ++ B) []) TState.init [] =
      after sA.lnum accA (tokenizeLines E P ((splitLines B []).length + 2) (splitLines B []) TState.init []) := by
  exact tokenize_append_neutral E P A B hA sA accA hrun hn

/-- Non-vacuity: a two-branch pattern set, the text "a\n": reading it leaves the tokenizer neutral with the last line
    ending in a line feed, so the theorem applies to every continuation. -/
def tinyPats : Pats :=
  { pseudo := [("Name", .plus true (.set false [.word])), ("NL", .chr 10)], endpats := [], startLBrace := [], endRBrace := .eps, tabsize := 8 }
def tinyEnv : Env := { wordChars := [], spaceChars := [] }

example : ∃ sA accA, runLines tinyEnv tinyPats (splitLines [97, 10] []) TState.init [] = .ok (some (sA, accA)) ∧
    sA.parenlev = 0 ∧ sA.continued = false ∧ sA.indents = [0] ∧ sA.endProgs = [] ∧ sA.line.toList.getLast? = some 10 ∧
    accA.map (·.ty) = [.NAME, .NEWLINE] := by
  refine ⟨_, _, rfl, ?_⟩
  decide +kernel

end XV.Tz
