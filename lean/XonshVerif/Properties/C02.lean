/-
  C01 / C02 / C05 — the xonsh extension is inert on the Python lexicon; acceptance is decided by the
  first pass.  The two property theorems (from `parse_eq` and the `fired` invariant of Proofs/PegFired) and a worked example.
-/
import XonshVerif.Proofs.PegFired
namespace XV.Peg

/-- `Parser.parse` returns a tree only if the FIRST call of the start
    rule succeeded: whatever the diagnostic pass does, it ends in a raise. -/
theorem second_pass_never_accepts (prog : Prog) (w : Array RTok) (fuel start : Nat)
    (h : (parse prog w fuel start).1 = .tree) :
    (execRule prog w fuel start (St.init w.size false)).1.isOk = true := by
  rw [parse_eq rfl rfl] at h
  split at h
  · rename_i hc
    simpa [(Outcome.of_eq_tree (far := none) h).2] using hc
  · cases (Outcome.of_eq_tree (far := some _) h).1

/-- Conservativity, trace form.  Let `W` be a witness accepted by the
    dead-alternative certificate.  For every token list of the Python lexicon, every fuel and every start
    rule, no alternative marked dead has its action run, in the first pass or in the diagnostic pass:
    on Python-lexicon input every xonsh-only alternative of the grammar is inert. -/
theorem xonsh_alternatives_inert (L : Lexicon) (prog : Prog) (W : DeadSet) (w : Array RTok)
    (hc : deadCert L prog W = true) (hw : PyLex L w) (fuel start : Nat) :
    FiredOK L prog W (parse prog w fuel start).2.1 ∧
    (∀ s2, (parse prog w fuel start).2.2.1 = some s2 → FiredOK L prog W s2) := by
  have inv := (firedOK_closed w hc hw).execRule fuel start
  have h1 := inv _ (firedOK_init (L := L) (prog := prog) (W := W) w.size false)
  rw [parse_eq rfl rfl]
  split
  · exact ⟨h1, fun _ h => nomatch h⟩
  · exact ⟨h1, fun s2 hs2 => Option.some.inj hs2 ▸ inv _ h1⟩

/-- Non-vacuity: a two-alternative rule whose first alternative needs a xonsh-only token; on a Python-lexicon
    input the witness is accepted, the input satisfies `PyLex`, and exactly the live alternative fires. -/
def tinyProg : Prog := #[{ deco := .none, body := .alts [
    { items := [{ item := .call (.expect 7), opt := false }], act := .truthy, cut := false },
    { items := [{ item := .call .name, opt := false }], act := .truthy, cut := false }] false false }]
def tinyLex : Lexicon := { xonshStrs := [7], xonshTypes := [.SEARCH_PATH] }
def tinyW : Array RTok := #[{ ty := .NAME, strId := 3, isKw := false, isSoft := false }]

example : deadCert tinyLex tinyProg [] = true := by decide
example : (parse tinyProg tinyW 20 0).2.1.fired = [(0, 1)] := by decide +kernel
example : deadAltsOf tinyLex [] tinyProg = [(0, 0)] := by decide

end XV.Peg
