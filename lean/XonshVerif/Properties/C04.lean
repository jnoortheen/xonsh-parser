/-
  C04 — soundness of the nullability analysis of action expressions with respect to the way Python
  evaluates `None`, `or`, `and` and conditional expressions.
-/
import XonshVerif.Model.ActionNull
namespace XV.Act

/-- what matters about a Python value here -/
inductive Val where
  | none      -- None
  | falsy     -- a falsy value that is not None ([], 0, "")
  | truthy
deriving DecidableEq, Repr

def Val.isTruthy : Val → Bool | .truthy => true | _ => false

/-- a valuation of the variables agrees with how the alternative binds them: a non-optional conjunct is truthy,
    an optional one is None or truthy, `repeated` gives a list (never None), an optional `gathered` None or a list -/
def EnvOK (env : List (String × Bind)) (ρ : String → Val) : Prop :=
  ∀ x, match bindOf env x with
    | some .one => ρ x = .truthy
    | some .opt => ρ x = .none ∨ ρ x = .truthy
    | some .many => ρ x ≠ .none
    | some .optMany => True
    | none => ρ x ≠ .none          -- loop variables, `self`, module-level names

/-- big-step evaluation (a relation: `nonNull` stands for any expression that cannot be None; a conditional
    expression may take either branch) -/
inductive Eval (ρ : String → Val) : AE → Val → Prop where
  | var (x : String) : Eval ρ (.var x) (ρ x)
  | none : Eval ρ .none .none
  | nonNull (v : Val) (h : v ≠ .none) : Eval ρ .nonNull v
  | orL {a b : AE} {v : Val} (ha : Eval ρ a v) (ht : v.isTruthy = true) : Eval ρ (.orE a b) v
  | orR {a b : AE} {v w : Val} (ha : Eval ρ a v) (ht : v.isTruthy = false) (hb : Eval ρ b w) : Eval ρ (.orE a b) w
  | andL {a b : AE} {v : Val} (ha : Eval ρ a v) (ht : v.isTruthy = false) : Eval ρ (.andE a b) v
  | andR {a b : AE} {v w : Val} (ha : Eval ρ a v) (ht : v.isTruthy = true) (hb : Eval ρ b w) : Eval ρ (.andE a b) w
  | ifL {a b : AE} {v : Val} (ha : Eval ρ a v) : Eval ρ (.ifE a b) v
  | ifR {a b : AE} {w : Val} (hb : Eval ρ b w) : Eval ρ (.ifE a b) w

/-- An expression the analysis calls non-nullable never evaluates to None, under every
    valuation that agrees with the alternative's bindings. -/
theorem nullable_sound (env : List (String × Bind)) (ρ : String → Val) (hρ : EnvOK env ρ) :
    ∀ (e : AE) (v : Val), nullable env e = false → Eval ρ e v → v ≠ .none := by
  intro e v hn hev
  induction hev with
  | var x =>
    have := hρ x
    unfold nullable at hn
    cases hb : bindOf env x with
    | none => rw [hb] at this; exact this
    | some b =>
      rw [hb] at this hn
      cases b <;> simp at hn this ⊢
      · rw [this]; simp
      · exact this
  | none => simp [nullable] at hn
  | nonNull v h => exact h
  | orL ha ht ih => intro hv; rw [hv] at ht; simp [Val.isTruthy] at ht
  | orR ha ht hb iha ihb => exact ihb (by simpa [nullable] using hn)
  | andL ha ht ih =>
    simp only [nullable, Bool.or_eq_false_iff] at hn
    exact ih hn.1
  | andR ha ht hb iha ihb =>
    simp only [nullable, Bool.or_eq_false_iff] at hn
    exact ihb hn.2
  | ifL ha ih =>
    simp only [nullable, Bool.or_eq_false_iff] at hn
    exact ih hn.1
  | ifR hb ih =>
    simp only [nullable, Bool.or_eq_false_iff] at hn
    exact ih hn.2

/-- If the certificate accepts an alternative, then every required (`1`) or
    list (`*`) constructor field in its action receives a value that is not None. -/
theorem required_fields_never_none (a : AltFields) (h : altOK a = true) (ρ : String → Val) (hρ : EnvOK a.binds ρ)
    (f : FieldUse) (hf : f ∈ a.fields) (hk : f.kind = .one ∨ f.kind = .star) (v : Val) (hv : Eval ρ f.value v) : v ≠ .none := by
  unfold altOK at h
  have := List.all_eq_true.mp h f hf
  unfold fieldOK at this
  rcases hk with hk | hk <;> (rw [hk] at this; simp at this; exact nullable_sound a.binds ρ hρ f.value v this hv)

/-- Non-vacuity: `elts = a or []` with `a` bound by an optional conjunct is accepted, `elts = a` is not. -/
example : nullable [("a", .opt)] (.orE (.var "a") .nonNull) = false := by decide
example : nullable [("a", .opt)] (.var "a") = true := by decide

end XV.Act
