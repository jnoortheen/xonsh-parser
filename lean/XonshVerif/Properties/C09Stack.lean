/-
  C09 - the indentation stack follows the language reference: it is strictly increasing from 0; a line whose column is
  larger than the top pushes it (one INDENT), a smaller column pops down to an ENCLOSING column that must be on the stack
  (one DEDENT per popped entry, IndentationError otherwise); afterwards the top of the stack IS the line's column.
-/
import XonshVerif.Proofs.TokSteps
import XonshVerif.Proofs.ListAux
namespace XV.Tz
open XV

def IndOK (ind : List Nat) : Prop := ind ≠ [] ∧ ind.Pairwise (· < ·)

theorem IndOK.init : IndOK TState.init.indents := ⟨by simp [TState.init], by simp [TState.init]⟩

theorem le_getLast_of_increasing {l : List Nat} (h : l.Pairwise (· < ·)) {top : Nat} (ht : l.getLast? = some top) : ∀ x ∈ l, x ≤ top := by
  rw [← List.dropLast_append_of_getLast? ht, List.pairwise_append] at h
  intro x hx
  rw [← List.dropLast_append_of_getLast? ht] at hx
  rcases List.mem_append.mp hx with h1 | h1
  · exact Nat.le_of_lt (h.2.2 x h1 top List.mem_cons_self)
  · exact Nat.le_of_eq (List.mem_singleton.mp h1)

/-- the `while column < indents[-1]` loop, started on an increasing stack whose top is at least `column`: it ends with
    `column` on top (IndentationError otherwise); one entry is popped per DEDENT (`Dedents.length`) -/
theorem Dedents.spec {col k : Nat} {ind ind' : List Nat} (h : Dedents col ind k ind') : ∀ {top : Nat},
    ind.Pairwise (· < ·) → ind.getLast? = some top → col ≤ top → ind'.Pairwise (· < ·) ∧ ind'.getLast? = some col := by
  induction h with
  | stop hs => exact fun hp htop hle => ⟨hp, by rw [htop]; congr 1; exact Nat.le_antisymm (hs _ htop) hle⟩
  | @pop ind ind' top' k htop' hlt hmem _ ih =>
    intro top hp htop _
    -- `col` is on the stack below the top, so the stack without its top is again as the statement asks
    have hmem := mem_dropLast_of_lt htop' hlt hmem
    have hp' := (List.pairwise_append.mp (List.dropLast_append_of_getLast? htop' ▸ hp)).1
    have htop2 := List.getLast?_eq_some_getLast (List.ne_nil_of_mem hmem)
    exact ih hp' htop2 (le_getLast_of_increasing hp' htop2 col hmem)

theorem dedents_spec (col lnum pos : Nat) (line : List Nat) (fuel : Nat) (ind : List Nat) (acc : List Tok5) (ind' : List Nat) (acc' : List Tok5)
    (top : Nat) (hp : ind.Pairwise (· < ·)) (htop : ind.getLast? = some top) (hle : col ≤ top) (hf : ind.length < fuel)
    (h : dedents col lnum pos line fuel ind acc = .ok (ind', acc')) :
    ind'.Pairwise (· < ·) ∧ ind'.getLast? = some col ∧ acc'.length + ind'.length = acc.length + ind.length := by
  obtain ⟨k, hk, hd⟩ := (dedents_total fuel ind acc hf).ok h
  simp only [] at hk hd
  subst hk
  obtain ⟨a, b⟩ := hd.spec hp htop hle
  exact ⟨a, b, by have := hd.length.1; simp; omega⟩

/-- What `next_statement` emits when it lets the line through (`proceed`) from a strictly increasing stack, `col` being
    the line's column: the column was larger than the top, and it is pushed with ONE INDENT token whose text is the
    indentation; or it was not, and `k` entries are popped with `k` DEDENT tokens until `col` is on top.  Either way the
    new stack is strictly increasing with `col` on top. -/
theorem StmtStep.stack {st st' : TState} {col pos : Nat} {ts : List Tok5} (hok : IndOK st.indents)
    (hs : StmtStep st col pos ts st' .proceed) :
    IndOK st'.indents ∧ st'.indents.getLast? = some col ∧
    ((st.indents.getLast?.getD 0 < col ∧ st'.indents = st.indents ++ [col] ∧
        ts = [⟨.INDENT, st.line.toList.take pos, ⟨st.lnum, 0⟩, ⟨st.lnum, pos⟩, st.line.toList⟩]) ∨
     (col ≤ st.indents.getLast?.getD 0 ∧ ∃ k, Dedents col st.indents k st'.indents ∧ st'.indents.length + k = st.indents.length ∧
        ts = List.replicate k (dedentTok st.lnum pos st.line.toList))) := by
  obtain ⟨hne, hp⟩ := hok
  have htop := List.getLast?_eq_some_getLast hne
  generalize st.indents.getLast hne = top at htop
  cases hs with
  | indent _ hgt =>
    have hp1 : (st.indents ++ [col]).Pairwise (· < ·) :=
      List.pairwise_append.mpr ⟨hp, List.pairwise_singleton _ _, fun x hx y hy =>
        List.mem_singleton.mp hy ▸ Nat.lt_of_le_of_lt (le_getLast_of_increasing hp htop x hx) (by rwa [htop] at hgt)⟩
    exact ⟨⟨by simp, hp1⟩, by simp, .inl ⟨hgt, rfl, rfl⟩⟩
  | @dedent k ind' _ hle hd =>
    obtain ⟨a, b⟩ := hd.spec hp htop (by rwa [htop] at hle)
    exact ⟨⟨hd.length.2 hne, a⟩, b, .inr ⟨hle, k, hd, hd.length.1, rfl⟩⟩

/-- **indentation_stack_follows_the_reference.**  If `next_statement` lets the line through (`proceed`) from a strictly
    increasing stack, the new stack is strictly increasing, its top is exactly the line's column (as `measureIndent`
    computes it), and tokens and stack heights add up: one token and one more entry when the column grew, else one token
    per popped entry.  Which tokens these are says `StmtStep.stack`, of which this is the count; the error case is not
    part of either; and both are about one call: no theorem carries `IndOK` along a run. -/
theorem indentation_stack_follows_the_reference (P : Pats) (st st' : TState) (ts : List Tok5)
    (hok : IndOK st.indents) (h : nextStatement P st = .ok (ts, st', .proceed)) :
    IndOK st'.indents ∧ st'.indents.getLast? = some (measureIndent P.tabsize st.line (st.max + 1) 0 st.pos).1 ∧
    ts.length + st'.indents.length = st.indents.length + (if (measureIndent P.tabsize st.line (st.max + 1) 0 st.pos).1 > st.indents.getLast?.getD 0 then 2 else 0) := by
  have hs : StmtStep st _ _ ts st' .proceed := (nextStatement_total P st).ok h
  obtain ⟨a, b, c⟩ := hs.stack hok
  refine ⟨a, b, ?_⟩
  rcases c with ⟨hgt, e, rfl⟩ | ⟨hle, k, _, e, rfl⟩
  · rw [e, if_pos hgt]; simp; omega
  · rw [if_neg (Nat.not_lt.mpr hle)]; simp; omega

/-- Non-vacuity: from the stack [0, 4, 8] the line `    x` (column 4) pops one entry with one DEDENT, the line `  x` (column 2,
    not on the stack) is an IndentationError, the line `            x` (column 12) pushes with one INDENT. -/
def stackPats : Pats := { pseudo := [], endpats := [], startLBrace := [], endRBrace := .eps, tabsize := 8 }
def stackSt (line : List Nat) : TState := { TState.init with indents := [0, 4, 8], lnum := 3, line := line.toArray, max := line.length }
example : (match nextStatement stackPats (stackSt [32, 32, 32, 32, 120]) with | .ok (ts, s, a) => some (ts.map (·.ty), s.indents, a) | .error _ => none) =
    some ([.DEDENT], [0, 4], .proceed) := by decide
example : (match nextStatement stackPats (stackSt [32, 32, 120]) with | .ok _ => none | .error e => some e) = some (.indentationError 3 2) := by decide
example : (match nextStatement stackPats (stackSt ((List.replicate 12 32) ++ [120])) with | .ok (ts, s, a) => some (ts.map (·.ty), s.indents, a) | .error _ => none) =
    some ([.INDENT], [0, 4, 8, 12], .proceed) := by decide

end XV.Tz
