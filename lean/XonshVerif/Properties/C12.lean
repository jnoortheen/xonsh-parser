/-
  C12 — error text is the same in both entry points.
-/
import XonshVerif.Model.Lines
import XonshVerif.Proofs.ListAux
namespace XV.Lines

/-- requested line numbers among the first `c` lines -/
def keysUpTo (nums : List Nat) (c : Nat) : List Nat := (List.range' 1 c).filter nums.contains

def tableUpTo (nums : List Nat) (ls : List (List Nat)) (c : Nat) : List (Nat × List Nat) :=
  (keysUpTo nums c).map (fun k => (k, (ls[k - 1]?).getD []))

theorem keysUpTo_succ (nums : List Nat) (c : Nat) :
    keysUpTo nums (c + 1) = keysUpTo nums c ++ (if nums.contains (c + 1) then [c + 1] else []) := by
  unfold keysUpTo
  rw [List.range'_concat, List.filter_append]
  simp only [Nat.one_mul, Nat.add_comm 1 c, List.filter_cons, List.filter_nil]

theorem tableUpTo_succ (nums : List Nat) (ls : List (List Nat)) (c : Nat) :
    tableUpTo nums ls (c + 1) = tableUpTo nums ls c ++ (if nums.contains (c + 1) then [(c + 1, (ls[c]?).getD [])] else []) := by
  unfold tableUpTo
  rw [keysUpTo_succ, List.map_append]
  split <;> simp

/-- what the scan returns: the table of the requested lines among the first `c'` lines, where either the whole file
    was read or all `n` requested lines were seen -/
theorem scanFile_spec (nums : List Nat) (n : Nat) (ls : List (List Nat)) :
    ∀ (rest : List (List Nat)) (count seen : Nat) (acc : List (Nat × List Nat)),
      count + rest.length = ls.length → rest = ls.drop count →
      acc = tableUpTo nums ls count → seen = (keysUpTo nums count).length →
      ∃ c', c' ≤ ls.length ∧ scanFile nums n rest count seen acc = tableUpTo nums ls c' ∧
        (c' = ls.length ∨ (keysUpTo nums c').length = n) := by
  intro rest
  induction rest with
  | nil =>
    intro count seen acc hlen _ hacc _
    exact ⟨count, by simp at hlen; omega, by simp [scanFile, hacc], Or.inl (by simpa using hlen)⟩
  | cons l rest ih =>
    intro count seen acc hlen hrest hacc hseen
    -- the line read is `ls[count]`, what is left is `ls.drop (count + 1)`
    have hlt : count < ls.length := by rw [← hlen, List.length_cons]; omega
    rw [List.drop_eq_getElem_cons hlt] at hrest
    obtain ⟨rfl, rfl⟩ := List.cons_eq_cons.mp hrest
    have step := fun seen acc => ih (count + 1) seen acc (by rw [List.length_drop]; omega) rfl
    rw [scanFile]
    by_cases hc : nums.contains (count + 1) = true
    · have hacc' : acc ++ [(count + 1, ls[count])] = tableUpTo nums ls (count + 1) := by
        rw [tableUpTo_succ, hacc, if_pos hc, List.getElem?_eq_getElem hlt]; rfl
      have hseen' : seen + 1 = (keysUpTo nums (count + 1)).length := by
        rw [keysUpTo_succ, hseen, if_pos hc, List.length_append]; rfl
      rw [if_pos hc]
      by_cases hn : seen + 1 = n
      · rw [if_pos hn]
        exact ⟨count + 1, hlt, hacc', Or.inr (hseen'.symm.trans hn)⟩
      · rw [if_neg hn]
        exact step _ _ hacc' hseen'
    · rw [if_neg hc]
      exact step _ _ (by rw [tableUpTo_succ, hacc, if_neg hc, List.append_nil]) (by rw [keysUpTo_succ, hseen, if_neg hc, List.append_nil])

theorem keysUpTo_nodup (nums : List Nat) (c : Nat) : (keysUpTo nums c).Nodup :=
  (List.nodup_range' (s := 1) (n := c) (step := 1) (by omega)).sublist (List.filter_sublist)

theorem mem_keysUpTo (nums : List Nat) (c k : Nat) : k ∈ keysUpTo nums c ↔ (1 ≤ k ∧ k ≤ c) ∧ k ∈ nums := by
  unfold keysUpTo
  simp only [List.mem_filter, List.mem_range'_1, List.contains_eq_mem, decide_eq_true_eq]
  constructor
  · rintro ⟨⟨h1, h2⟩, h3⟩; exact ⟨⟨h1, by omega⟩, h3⟩
  · rintro ⟨⟨h1, h2⟩, h3⟩; exact ⟨⟨h1, by omega⟩, h3⟩

theorem lookup_tableUpTo (nums : List Nat) (ls : List (List Nat)) (c k : Nat) :
    lookup (tableUpTo nums ls c) k = if k ∈ keysUpTo nums c then (ls[k - 1]?).getD [] else [] := by
  unfold lookup tableUpTo
  induction keysUpTo nums c with
  | nil => simp
  | cons x xs ih =>
    simp only [List.map_cons, List.find?_cons]
    by_cases hx : x = k
    · subst hx; simp
    · have : decide (x = k) = false := by simp [hx]
      simp only [this]
      rw [ih]
      have : k ≠ x := fun h => hx h.symm
      simp [List.mem_cons, this]

/-- For every file content and every list of requested line numbers, re-reading the
    file (with the early exit once all requested lines were seen) finds exactly the texts the line table of string
    mode holds: the `text` of a SyntaxError is the same in both entry points. -/
theorem getLines_file_eq_string (ls : List (List Nat)) (nums : List Nat) :
    getLinesFile ls nums = getLinesString ls nums := by
  unfold getLinesFile getLinesString
  obtain ⟨c', hc', hT, hdone⟩ := scanFile_spec nums nums.length ls ls 0 0 [] (by simp) (by simp) (by simp [tableUpTo, keysUpTo]) (by simp [keysUpTo])
  rw [hT]
  apply List.map_congr_left
  intro k hk
  rw [lookup_tableUpTo]
  by_cases hmem : k ∈ keysUpTo nums c'
  · have := (mem_keysUpTo nums c' k).mp hmem
    have hk0 : k ≠ 0 := by omega
    simp [hmem, hk0]
  · simp only [hmem, if_false]
    -- not found: either k = 0, or beyond the end of the file; the early exit cannot have skipped it
    by_cases hk0 : k = 0
    · simp [hk0]
    · simp only [hk0, if_false]
      have hgt : ls.length < k := by
        rcases hdone with hfull | hall
        · exact Nat.lt_of_not_le fun hle => hmem ((mem_keysUpTo nums c' k).mpr ⟨⟨by omega, by omega⟩, hk⟩)
        · -- all requested numbers were seen: the keys are a duplicate-free sub-collection of nums of the same length
          have hsub : keysUpTo nums c' ⊆ nums := fun x hx => ((mem_keysUpTo nums c' x).mp hx).2
          exact absurd ((keysUpTo_nodup nums c').subset_of_length_le hsub (by omega) hk) hmem
      have : ls[k - 1]? = none := by
        rw [List.getElem?_eq_none_iff]; omega
      simp [this]

/-- Non-vacuity: three lines, the early exit is taken (lines 1 and 2 requested) and the answers agree. -/
example : getLinesFile [[97, 10], [98, 10], [99]] [1, 2] = [[97, 10], [98, 10]] := by decide
example : getLinesFile [[97, 10], [98, 10], [99]] [0, 3, 7, 3] = [[], [99], [], [99]] := by decide

end XV.Lines
