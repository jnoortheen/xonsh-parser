/-
  C08 — the tokens tile the source: every token's text is the source between its coordinates, the tokens come in position
  order, what lies between them is indentation or a backslash continuation; INDENT / DEDENT are balanced and the stream
  ends in one ENDMARKER.  Each theorem is the invariant's lemma for the whole run (`Lines.src`, `.ord`, `.gaps`, `.struct`,
  Proofs/Tok*) applied to the run of a finished `tokenize` (`tokenize_lines`).
-/
import XonshVerif.Proofs.TokStructure
import XonshVerif.Proofs.TokOrder
import XonshVerif.Proofs.TokGaps
namespace XV.Tz
open XV XV.Rx

theorem srcText_is_slice_of_source (src : List Nat) (a b : Pos) :
    srcText (splitLines src []) a b = (src.drop (off (splitLines src []) a)).take (off (splitLines src []) b - off (splitLines src []) a) := by
  unfold srcText; rw [splitLines_flatten src []]; simp

/-- Non-vacuity (tiny pattern set, `x` then a two-line string): the STRING token spans two lines and the theorem's
    conclusion is a real equation between its text and the source. -/
def strPats : Pats :=
  { pseudo := [("StringStart", .seq (.chr 39) (.seq (.chr 39) (.chr 39))), ("Name", .plus true (.set false [.word])), ("NL", .chr 10)],
    endpats := [("'''", .seq (.star false (.alt .any (.chr 10))) (.seq (.chr 39) (.seq (.chr 39) (.chr 39))))],
    startLBrace := [], endRBrace := .eps, tabsize := 8 }

/-- `x'''a⏎b'''⏎` -/
def strSrc : List Nat := [120, 39, 39, 39, 97, 10, 98, 39, 39, 39, 10]

example : ((tokenize ⟨[], []⟩ strPats strSrc).toks.filter (·.ty = .STRING)).map (fun t => (t.str, t.start, t.stop)) =
    [([39, 39, 39, 97, 10, 98, 39, 39, 39], ⟨1, 1⟩, ⟨2, 4⟩)] := by decide +kernel
example : (tokenize ⟨[], []⟩ strPats strSrc).err = none := by decide +kernel
example : srcText (splitLines strSrc []) ⟨1, 1⟩ ⟨2, 4⟩ = [39, 39, 39, 97, 10, 98, 39, 39, 39] := by decide +kernel

/-- **tokenize_structure.**  For every pattern set, every character environment and every text on which the tokenizer
    finishes: reading INDENT as an opening and DEDENT as a closing bracket, the token stream is balanced - no DEDENT
    without an open INDENT at any point (`depthAfter` is never `none`), all INDENTs closed at the end - and the stream is
    `body ++ [ENDMARKER]` with no ENDMARKER inside `body`: exactly one ENDMARKER, last.  (No hypothesis on the patterns.) -/
theorem tokenize_structure (E : Env) (P : Pats) (src : List Nat) (hfin : (tokenize E P src).err = none) :
    depthAfter 0 (tokenize E P src).toks = some 0 ∧
    ∃ body e, (tokenize E P src).toks = body ++ [e] ∧ e.ty = .ENDMARKER ∧ ∀ t ∈ body, t.ty ≠ .ENDMARKER := by
  obtain ⟨body, e, hb, he, hno, hd⟩ := (tokenize_lines hfin).struct (by simp [TState.init])
  have hd : depthAfter 0 body = some 0 := hd
  exact ⟨by rw [hb, depthAfter_append, hd]; simp [depthAfter, he], body, e, hb, he, hno⟩

/-- every prefix of a finished token stream has at least as many INDENTs as DEDENTs (a corollary, stated for prefixes) -/
theorem prefix_depth_defined (E : Env) (P : Pats) (src : List Nat) (hfin : (tokenize E P src).err = none)
    (pre suf : List Tok5) (hsplit : (tokenize E P src).toks = pre ++ suf) : ∃ d, depthAfter 0 pre = some d := by
  have h := (tokenize_structure E P src hfin).1
  rw [hsplit, depthAfter_append] at h
  obtain ⟨d, hd, _⟩ := Option.bind_eq_some_iff.mp h
  exact ⟨d, hd⟩

/-- Non-vacuity (tiny pattern set): `a⏎ b⏎  c⏎d⏎` opens two indentation levels and closes both before `d`. -/
def indPats : Pats :=
  { pseudo := [("Name", .plus true (.set false [.word])), ("NL", .chr 10)], endpats := [], startLBrace := [], endRBrace := .eps, tabsize := 8 }
def indSrc : List Nat := [97, 10, 32, 98, 10, 32, 32, 99, 10, 100, 10]

example : (tokenize ⟨[], []⟩ indPats indSrc).err = none := by decide +kernel
example : ((tokenize ⟨[], []⟩ indPats indSrc).toks.map (·.ty)) =
    [.NAME, .NEWLINE, .INDENT, .NAME, .NEWLINE, .INDENT, .NAME, .NEWLINE, .DEDENT, .DEDENT, .NAME, .NEWLINE, .ENDMARKER] := by decide +kernel
example : depthAfter 0 ((tokenize ⟨[], []⟩ indPats indSrc).toks.take 7) = some 2 := by decide +kernel

/-- **tokens_are_source_slices.**  For every pattern set with progressing pseudo-token branches, every environment and every
    text on which the tokenizer finishes: every `Covered` token - every token that is not FSTRING_MIDDLE, not FSTRING_END
    and not an operator token whose text is `{` or `}` - has as its text exactly the source characters between its start
    and end coordinates: names, numbers, the other operators, comments, whitespace, search paths, NL/NEWLINE, ERRORTOKEN,
    FSTRING_START, INDENT (the indentation itself), STRING across any number of lines, and the empty DEDENT / implicit
    NEWLINE / ENDMARKER.  `Covered` goes by type and text alone, so it also leaves out the braces the master pattern emits
    (dict / set braces, the `}` that closes an f-string field), which need no certificate; `all_tokens_are_source_slices`
    has them, with the certificates on the f-string patterns. -/
theorem tokens_are_source_slices (E : Env) (P : Pats) (hP : PseudoProgress P) (src : List Nat)
    (hfin : (tokenize E P src).err = none) :
    ∀ t ∈ (tokenize E P src).toks, Covered t → t.str = srcText (splitLines src []) t.start t.stop := by
  exact fun t ht hc => (tokenize_lines hfin).src (splitLines_nonLastEndNL src []) hP False.elim rfl (.init _) (bt_init _ _)
    t ht (.inr hc)

/-- **string_tokens_are_source_slices.**  For every pattern set whose pseudo-token branches make progress (certificate
    `pseudo_branches_progress` for the shipped patterns), every character environment and every text on which the
    tokenizer finishes: each STRING token - one line or many, at top level or inside the braces of an f-string - has as
    its text EXACTLY the characters of the source between its start and end coordinates.  `srcText` reads them off the
    text itself: the physical lines flattened are the source (`splitLines_flatten`). -/
theorem string_tokens_are_source_slices (E : Env) (P : Pats) (hP : PseudoProgress P) (src : List Nat)
    (hfin : (tokenize E P src).err = none) :
    ∀ t ∈ (tokenize E P src).toks, t.ty = .STRING → t.str = srcText (splitLines src []) t.start t.stop := by
  intro t ht hty
  exact tokens_are_source_slices E P hP src hfin t ht ⟨by rw [hty]; nofun, by rw [hty]; nofun, fun h => by rw [hty] at h; cases h.1⟩

/-- Non-vacuity: in `a⏎ b⏎  c⏎d⏎` every token is covered, the INDENT tokens carry the indentation and the theorem's
    equation is a real one for each of them. -/
example : ((tokenize ⟨[], []⟩ indPats indSrc).toks.filter (fun t => t.ty = .INDENT)).map (fun t => (t.str, t.start, t.stop)) =
    [([32], ⟨2, 0⟩, ⟨2, 1⟩), ([32, 32], ⟨3, 0⟩, ⟨3, 2⟩)] := by decide +kernel
example : srcText (splitLines indSrc []) ⟨3, 0⟩ ⟨3, 2⟩ = [32, 32] := by decide +kernel

/-- **tokens_in_position_order** (the ordering clause of C08).  For every pattern set whose pseudo-token branches make
    progress and whose f-string scanners consume the brace / closing quote they report (`FstrLen`, a certificate on the
    shipped patterns), every character environment and every text on which the tokenizer finishes: each token ends at or
    after its start, and every token starts at or after the end of every earlier token - non-decreasing, non-overlapping
    position order, for all token kinds including the parts of (nested, multi-line) f-strings. -/
theorem tokens_in_position_order (E : Env) (P : Pats) (hP : PseudoProgress P) (hF : FstrLen P) (src : List Nat)
    (hfin : (tokenize E P src).err = none) :
    (tokenize E P src).toks.Pairwise (fun a b => a.stop ≤ b.start) ∧ ∀ t ∈ (tokenize E P src).toks, t.start ≤ t.stop := by
  obtain ⟨hi, hc⟩ := (tokenize_lines hfin).ord hP hF (hw := ⟨0, 0⟩) rfl (OI.empty (Pos.le_refl' _))
  obtain ⟨a, b⟩ := hc.pairwise
  exact ⟨a, fun t ht => (b t ht).2.1⟩

/-- Non-vacuity: the indentation example is a real chain of 13 tokens. -/
example : (tokenize ⟨[], []⟩ indPats indSrc).err = none ∧ (tokenize ⟨[], []⟩ indPats indSrc).toks.length = 13 := by decide +kernel

/-- **all_tokens_are_source_slices** (the first clause of C08, for every token): on every text the tokenizer finishes on,
    each token's text equals the source between its start and end coordinates. -/
theorem all_tokens_are_source_slices (E : Env) (P : Pats) (hP : PseudoProgress P) (hF : FstrLen P) (hE : FstrEnds P)
    (src : List Nat) (hfin : (tokenize E P src).err = none) :
    ∀ t ∈ (tokenize E P src).toks, t.str = srcText (splitLines src []) t.start t.stop := by
  exact fun t ht => (tokenize_lines hfin).src (splitLines_nonLastEndNL src []) hP (C := True) (fun _ => ⟨hF, hE⟩) rfl (.init _)
    (bt_init _ _) t ht (.inl trivial)

/-- **fstring_tokens_are_source_slices.**  Under the hypotheses of `tokens_in_position_order` plus `FstrEnds` (every match
    of the f-string scanners ends with the brace / the closing quote it reports - a certificate on the shipped patterns),
    every FSTRING_MIDDLE token (literal parts and format specs, across any number of lines, inside nested f-strings), every
    FSTRING_END token and every operator token (including the `{` / `}` the f-string scanner emits) has as its text exactly
    the source characters between its start and end coordinates. -/
theorem fstring_tokens_are_source_slices (E : Env) (P : Pats) (hP : PseudoProgress P) (hF : FstrLen P) (hE : FstrEnds P) (src : List Nat)
    (hfin : (tokenize E P src).err = none) :
    ∀ t ∈ (tokenize E P src).toks, (t.ty = .FSTRING_MIDDLE ∨ t.ty = .FSTRING_END ∨ t.ty = .OP) →
      t.str = srcText (splitLines src []) t.start t.stop := by
  exact fun t ht _ => all_tokens_are_source_slices E P hP hF hE src hfin t ht

/-- the two gap facts of the line loop, said of `tokenize`: between the tokens, and from the last token to the end of the text -/
theorem gaps_and_trailing (E : Env) (P : Pats) (hP : PseudoProgress P) (hF : FstrLen P) (hE : FstrEnds P)
    (hEG : EndGap P) (src : List Nat) (hfin : (tokenize E P src).err = none) :
    Gaps (splitLines src []) ⟨1, 0⟩ (tokenize E P src).toks ∧
    Gap (splitLines src []) (lastStop ⟨1, 0⟩ (tokenize E P src).toks) ⟨(splitLines src []).length + 1, 0⟩ := by
  exact (tokenize_lines hfin).gaps (splitLines_nonLastEndNL src []) hP hF hE hEG rfl (.init _) (bt_init _ _)
    ⟨(by intro p rest hp; cases hp), fun _ => Gap.refl _ _⟩

/-- **gaps_are_indentation_or_continuation** (the gap clause of C08).  Under the three pattern certificates of
    `all_tokens_are_source_slices` plus `EndGap` (the `End` branch of the master pattern - the backslash continuation -
    consumes only backslash, CR and LF), on every text on which the tokenizer finishes: every character of the source that
    lies before the first token or between two consecutive tokens lies in a `Gap`: line-leading runs of blanks / tabs / form
    feeds (the indentation `next_statement` measures) and stretches of backslash / CR / LF (a backslash continuation); see
    `between_consecutive_tokens` for the character-by-character statement.  Together with
    the slice and order theorems: the tokens and these gaps tile the text up to the last token. -/
theorem gaps_are_indentation_or_continuation (E : Env) (P : Pats) (hP : PseudoProgress P) (hF : FstrLen P) (hE : FstrEnds P)
    (hEG : EndGap P) (src : List Nat) (hfin : (tokenize E P src).err = none) :
    Gaps (splitLines src []) ⟨1, 0⟩ (tokenize E P src).toks :=
  (gaps_and_trailing E P hP hF hE hEG src hfin).1

/-- **after_the_last_token**: what is left of the text after the end of the last token (the ENDMARKER) - a final line of
    indentation without a line end, if anything - is a gap too: with `gaps_are_indentation_or_continuation` every character
    of the source outside all tokens is accounted for. -/
theorem after_the_last_token (E : Env) (P : Pats) (hP : PseudoProgress P) (hF : FstrLen P) (hE : FstrEnds P)
    (hEG : EndGap P) (src : List Nat) (hfin : (tokenize E P src).err = none) :
    ∀ i x, off (splitLines src []) (lastStop ⟨1, 0⟩ (tokenize E P src).toks) ≤ i → (splitLines src []).flatten[i]? = some x →
      (wsChar x = true ∧ LineLeading (splitLines src []) i) ∨ contChar x = true := by
  intro i x h1 h3
  exact (gaps_and_trailing E P hP hF hE hEG src hfin).2.chars i x h1
    (off_end _ (Nat.le_refl _) ▸ (List.getElem?_eq_some_iff.mp h3).1) h3

/-- **between_consecutive_tokens** (the gap clause of C08, character by character): every character of the source between
    the end of a token and the start of the next one is either a blank, tab or form feed that is LINE-LEADING (on its
    line, only such characters stand before it) or a backslash, CR or LF (a backslash continuation). -/
theorem between_consecutive_tokens (E : Env) (P : Pats) (hP : PseudoProgress P) (hF : FstrLen P) (hE : FstrEnds P)
    (hEG : EndGap P) (src : List Nat) (hfin : (tokenize E P src).err = none) (pre : List Tok5) (a b : Tok5) (post : List Tok5)
    (hsplit : (tokenize E P src).toks = pre ++ a :: b :: post) :
    ∀ i x, off (splitLines src []) a.stop ≤ i → i < off (splitLines src []) b.start → (splitLines src []).flatten[i]? = some x →
      (wsChar x = true ∧ LineLeading (splitLines src []) i) ∨ contChar x = true := by
  have h := gaps_are_indentation_or_continuation E P hP hF hE hEG src hfin
  rw [hsplit] at h
  exact (Gaps.adjacent pre a b post h).chars

/-- **before_the_first_token**: the same for the characters in front of the first token -/
theorem before_the_first_token (E : Env) (P : Pats) (hP : PseudoProgress P) (hF : FstrLen P) (hE : FstrEnds P)
    (hEG : EndGap P) (src : List Nat) (hfin : (tokenize E P src).err = none) (t : Tok5) (rest : List Tok5)
    (hsplit : (tokenize E P src).toks = t :: rest) :
    ∀ i x, i < off (splitLines src []) t.start → (splitLines src []).flatten[i]? = some x →
      (wsChar x = true ∧ LineLeading (splitLines src []) i) ∨ contChar x = true := by
  have h := gaps_are_indentation_or_continuation E P hP hF hE hEG src hfin
  rw [hsplit] at h
  intro i x h2 h3
  exact h.1.chars i x (by simp [off, prefixLen]) h2 h3

end XV.Tz
