/-
  C17 — clauses of PEG semantics that hold of the combinator model for EVERY program (the model that
  the correspondence `generated-code-IR` ties to freshly generated parsers): one step of each combinator read at one
  branch, then the theorems that tie the recogniser to the declarative semantics of `Proofs/PegSpec.lean`, each with a
  small program as witness that its hypotheses can be met.
-/
import XonshVerif.Proofs.PegSpecDeco
import XonshVerif.Proofs.PegSpecRange
import XonshVerif.Proofs.PegComplete
import XonshVerif.Proofs.PegTotal
import XonshVerif.Model.DriverPeg
namespace XV.Peg
variable (prog : Prog) (w : Array RTok)

/-- `&e` and `!e` never move the position: whatever `e` did, the parser is back
    where it was (unless `e` raised). -/
theorem lookahead_consumes_nothing (fuel : Nat) (p : Prim) (neg : Bool) (s : St)
    (h : (execItem prog w (fuel + 1) (if neg then .negLook p else .posLook p) s).1.isAbort = false) :
    (execItem prog w (fuel + 1) (if neg then .negLook p else .posLook p) s).2.pos = s.pos := by
  have hp := execItem_posLook (rfl : execPrim prog w fuel p s = _)
  have hn := execItem_negLook (rfl : execPrim prog w fuel p s = _)
  -- an exception of `e` would be the answer of the look-ahead
  have hna : ¬ (execPrim prog w fuel p s).1.isAbort = true := fun ha => by
    cases neg <;> simp only [Bool.false_eq_true, if_false, if_true, hp, hn, ha] at h <;> cases h
  -- and both other branches reset to where the look-ahead started
  cases neg <;> simp only [Bool.false_eq_true, if_false, if_true, hp, hn, if_neg hna] <;>
    exact ite_ind (Q := fun y : Res × St => y.2.pos = s.pos) (fun _ => rfl) (fun _ => rfl)

/-- `!e` succeeds exactly when `&e` fails (same state, same fuel). -/
theorem not_is_complement (fuel : Nat) (p : Prim) (s : St)
    (h : (execPrim prog w fuel p s).1.isAbort = false) :
    (execItem prog w (fuel + 1) (.negLook p) s).1.isOk = !(execItem prog w (fuel + 1) (.posLook p) s).1.isOk := by
  have hp := execItem_posLook (rfl : execPrim prog w fuel p s = _)
  have hn := execItem_negLook (rfl : execPrim prog w fuel p s = _)
  rw [hp, hn, h]
  cases (execPrim prog w fuel p s).1.isOk <;> rfl

/-- In `e1 | e2 | ...` (the `seq_alts` combinator) a successful first operand decides:
    the later operands are not consulted. -/
theorem ordered_choice_first (fuel : Nat) (p : Prim) (ps : List Prim) (mark e : Nat) (s : St)
    (h : (execPrim prog w fuel p s).1 = .ok e) :
    execSeqAlts prog w (fuel + 1) (p :: ps) mark s = (.ok e, (execPrim prog w fuel p s).2) := by
  simp only [execSeqAlts, h, Res.isAbort, Bool.false_eq_true, if_false]

/-- ... and a failing first operand is forgotten: the choice continues with the rest from
    the original position. -/
theorem ordered_choice_next (fuel : Nat) (p : Prim) (ps : List Prim) (mark e : Nat) (s : St)
    (h : (execPrim prog w fuel p s).1 = .fail e) :
    execSeqAlts prog w (fuel + 1) (p :: ps) mark s =
      execSeqAlts prog w fuel ps mark ((execPrim prog w fuel p s).2.reset mark) := by
  simp only [execSeqAlts, h, Res.isAbort, Bool.false_eq_true, if_false]

theorem empty_choice_fails (fuel mark : Nat) (s : St) : (execSeqAlts prog w (fuel + 1) [] mark s).1 = .fail mark := by
  rw [execSeqAlts]

/-- `e*` / `e+`: after a successful `e` the loop goes on from where `e` ended, one
    more element counted. -/
theorem star_continues_after_success (fuel : Nat) (p : Prim) (mark n e : Nat) (s : St)
    (h : (execPrim prog w fuel p s).1 = .ok e) :
    execRepeat prog w (fuel + 1) p mark n s =
      execRepeat prog w fuel p (execPrim prog w fuel p s).2.pos (n + 1) (execPrim prog w fuel p s).2 := by
  simp only [execRepeat, h, Res.isAbort, Bool.false_eq_true, if_false]

/-- ... and the first failing `e` ends it: the position goes back to the end of the last
    successful element (`mark`), the elements so far are the result - nothing consumed by the failed attempt is kept. -/
theorem star_stops_at_first_failure (fuel : Nat) (p : Prim) (mark n e : Nat) (s : St)
    (h : (execPrim prog w fuel p s).1 = .fail e) :
    execRepeat prog w (fuel + 1) p mark n s = (n, .ok mark, (execPrim prog w fuel p s).2.reset mark) := by
  simp only [execRepeat, h, Res.isAbort, Bool.false_eq_true, if_false]

/-- As an item, a repetition with zero elements is a failure (`e+`: the generator routes `e*`
    through an optional item). -/
theorem plus_requires_one (fuel : Nat) (p : Prim) (s : St)
    (h0 : (execRepeat prog w fuel p s.pos 0 s).1 = 0) (hna : (execRepeat prog w fuel p s.pos 0 s).2.1.isAbort = false) :
    (execItem prog w (fuel + 1) (.repeated p) s).1.isOk = false := by
  simp only [execItem, hna, Bool.false_eq_true, if_false, h0, if_true, Res.isOk]

/-- `sep.e+` fails, at its start position, when the first element fails. -/
theorem gather_needs_first_element (fuel : Nat) (e sp : Prim) (s : St) (x : Nat)
    (h : (execSeqAlts prog w fuel [e] s.pos s).1 = .fail x) :
    (execItem prog w (fuel + 1) (.gathered e sp) s).1 = .fail s.pos ∧ (execItem prog w (fuel + 1) (.gathered e sp) s).2.pos = s.pos := by
  simp only [execItem, h, Res.isAbort, Bool.false_eq_true, if_false, St.reset, and_self]

/-- A separator that is not followed by an element is not consumed: the list
    ends at the end of the last element. -/
theorem gather_gives_back_dangling_separator (fuel : Nat) (e sp : Prim) (mark n a b : Nat) (s : St)
    (hs : (execPrim prog w fuel sp s).1 = .ok a)
    (he : (execSeqAlts prog w fuel [e] (execPrim prog w fuel sp s).2.pos (execPrim prog w fuel sp s).2).1 = .fail b) :
    (execSepRepeat prog w (fuel + 1) e sp mark n s).1 = n ∧ (execSepRepeat prog w (fuel + 1) e sp mark n s).2.1 = .ok mark ∧
      (execSepRepeat prog w (fuel + 1) e sp mark n s).2.2.pos = mark := by
  simp only [execSepRepeat, hs, he, Res.isAbort, Bool.false_eq_true, if_false, St.reset, and_self]

theorem gather_stops_without_separator (fuel : Nat) (e sp : Prim) (mark n a : Nat) (s : St)
    (hs : (execPrim prog w fuel sp s).1 = .fail a) :
    execSepRepeat prog w (fuel + 1) e sp mark n s = (n, .ok mark, (execPrim prog w fuel sp s).2.reset mark) := by
  simp only [execSepRepeat, hs, Res.isAbort, Bool.false_eq_true, if_false]

/-- When an alternative fails after its cut `~`, the rule fails: the later alternatives are not tried.
    (`execItems` returns: all items truthy?, the cut flag, the answer, the state, which calls succeeded.) -/
theorem cut_commits (fuel rid idx mark : Nat) (a : Alt) (as : List Alt) (s : St)
    (hna : (execItems prog w fuel a.items false [] s).2.2.1.isAbort = false)
    (hfail : (execItems prog w fuel a.items false [] s).1 = false)
    (hcut : (execItems prog w fuel a.items false [] s).2.1 = true) :
    (execAlts prog w (fuel + 1) rid idx (a :: as) mark s).1 = .fail mark := by
  simp only [execAlts, hna, Bool.false_eq_true, if_false, hfail, hcut, if_true]

/-- Without a cut the next alternative is tried from the rule's start position. -/
theorem without_cut_next_alternative (fuel rid idx mark : Nat) (a : Alt) (as : List Alt) (s : St)
    (hna : (execItems prog w fuel a.items false [] s).2.2.1.isAbort = false)
    (hfail : (execItems prog w fuel a.items false [] s).1 = false)
    (hcut : (execItems prog w fuel a.items false [] s).2.1 = false) :
    execAlts prog w (fuel + 1) rid idx (a :: as) mark s =
      execAlts prog w fuel rid (idx + 1) as mark ((execItems prog w fuel a.items false [] s).2.2.2.1.reset mark) := by
  simp only [execAlts, hna, Bool.false_eq_true, if_false, hfail, hcut]

/-- `&&e`: a failing forced token is a SyntaxError, not a failure of the alternative. -/
theorem forced_raises_on_failure (fuel : Nat) (p : Prim) (what x : Nat) (s : St)
    (h : (execPrim prog w fuel p s).1 = .fail x) : (execItem prog w (fuel + 1) (.forced p what) s).1 = .raised := by
  simp only [execItem, h, Res.isAbort, Res.isOk, Bool.false_eq_true, if_false]

/-- `[e]`: a failing optional item lets the alternative go on with the following items (from
    wherever the failed attempt left the position - the generated methods reset before they return). -/
theorem optional_never_fails (fuel : Nat) (it : AltItem) (its : List AltItem) (cut : Bool) (oks : List Bool) (s : St) (x : Nat)
    (hopt : it.opt = true) (hitem : it.item ≠ .setCut ∧ it.item ≠ .guardInvalid)
    (h : (execItem prog w fuel it.item s).1 = .fail x) :
    execItems prog w (fuel + 1) (it :: its) cut oks s = execItems prog w fuel its cut (false :: oks) (execItem prog w fuel it.item s).2 := by
  rw [execItems_cons rfl, if_neg hitem.1, if_neg hitem.2, h, hopt]; rfl

/-- A memoised rule asked again at a position for which its cache holds a
    success returns exactly that success and moves to its end: the body is not run (`memo_hit_is_constant` counts the cost). -/
theorem memo_second_call_is_the_first_result (fuel id e : Nat) (r : Rule) (s : St)
    (hr : prog[id]? = some r) (hd : r.deco = .memo) (hc : cacheGet s.cache s.pos id = some (.ok e)) :
    execRule prog w (fuel + 1) id s = (.ok e, s.reset e) := by
  simp only [execRule, hr, hd, hc]

/-- the long form of one operand: an alternative `x=p { x }` -/
def inlineAlt (p : Prim) : Alt := { items := [⟨.call p, false⟩], act := .truthy, cut := false }

/-- equal up to the record of fired alternatives (which only the long form keeps) -/
def SameButFired (a b : St) : Prop :=
  a.pos = b.pos ∧ a.invalid = b.invalid ∧ a.verbose = b.verbose ∧ a.cache = b.cache ∧ a.fetched = b.fetched ∧ a.assumed = b.assumed ∧
  a.resets = b.resets ∧ a.peeks = b.peeks ∧ a.nexts = b.nexts

/-- equal results, the payload of a success aside (the long form returns the position, the short form what the operand returned) -/
def SameVerdict (a b : Res) : Prop := a = b ∨ (a.isOk = true ∧ b.isOk = true)

/-- A rule whose alternatives are single items without actions behaves the same whether the
    generator emits the standard method (`if (x := self.p1()): return x; self._reset(mark); if (x := self.p2()): ...`)
    or the shortcut `return self.seq_alts(self.p1, self.p2, ...)`: same verdict, same position, cache, token and reset
    counts - for every program, token list, state and fuel (the long form nests two calls deeper). -/
theorem inlined_choice_equiv (g rid mark : Nat) (ps : List Prim) : ∀ (idx : Nat) (s : St),
    SameVerdict (execAlts prog w (g + 3) rid idx (ps.map inlineAlt) mark s).1 (execSeqAlts prog w (g + 1) ps mark s).1 ∧
    SameButFired (execAlts prog w (g + 3) rid idx (ps.map inlineAlt) mark s).2 (execSeqAlts prog w (g + 1) ps mark s).2 := by
  induction ps generalizing g with
  | nil => intro idx s; simp [execAlts, execSeqAlts, SameVerdict, SameButFired]
  | cons p ps ih =>
    intro idx s
    cases g with
    | zero =>
      -- the operand call has no fuel in either form
      simp [List.map_cons, execAlts, execSeqAlts, inlineAlt, execItems, execItem, execPrim, Res.isAbort, SameVerdict, SameButFired]
    | succ g =>
      -- both forms call the operand with the same fuel; by cases on what it returns
      simp only [List.map_cons, execAlts, inlineAlt, execItems, execItem, execSeqAlts]
      generalize execPrim prog w (g + 1) p s = x
      obtain ⟨res, s1⟩ := x
      cases res <;> simp [Res.isAbort, Res.isOk, SameVerdict, SameButFired]
      exact ih g (idx + 1) _

/-- For every recogniser program none of whose actions can be falsy (`noFalsyB`, the
    well-formedness condition of the random grammars; decidable on every IR), every token list, every rule - plain,
    `memoize`d or `memoize_left_rec` - called with any amount of fuel from the initial state or from any state whose cached
    failures stand at their own positions: if the rule succeeds with end position `e` the tokenizer is AT `e`, and if it
    fails the tokenizer is back where the rule was called - a failing rule consumes nothing, a successful one exactly the
    tokens of its match. -/
theorem rule_consumes_exactly_its_match (prog : Prog) (w : Array RTok) (hnf : noFalsyB prog = true) (fuel id : Nat) (s : St)
    (hs : CacheOK s) :
    (∀ e, (execRule prog w fuel id s).1 = .ok e → (execRule prog w fuel id s).2.pos = e) ∧
    (∀ m, (execRule prog w fuel id s).1 = .fail m → (execRule prog w fuel id s).2.pos = s.pos) := by
  have h := (consInv (prog := prog) w (noFalsy_of_B prog hnf) fuel).rule id s hs
  exact ⟨h.1, h.2.1⟩

/-- ... and the cache invariant it needs is kept (it holds initially: `cacheOK_init`) -/
theorem cache_invariant_kept (prog : Prog) (w : Array RTok) (hnf : noFalsyB prog = true) (fuel id : Nat) (s : St) (hs : CacheOK s) :
    CacheOK (execRule prog w fuel id s).2 :=
  ((consInv (prog := prog) w (noFalsy_of_B prog hnf) fuel).rule id s hs).2.2

/-- Non-vacuity: a left-recursive two-rule program (`e: e '+' t | t ; t: NAME+`) has no falsy action, and on `a + a` its
    start rule ends at 3, with the tokenizer at 3. -/
def consProg : Prog := #[
  { deco := .leftrec, body := .alts [
      { items := [⟨.call (.rule 0), false⟩, ⟨.call (.expect 7), false⟩, ⟨.call (.rule 1), false⟩], act := .truthy, cut := false },
      { items := [⟨.call (.rule 1), false⟩], act := .truthy, cut := false }] false false },
  { deco := .memo, body := .alts [{ items := [⟨.repeated .name, false⟩], act := .truthy, cut := false }] false false }]
def consW : Array RTok := #[{ ty := .NAME, strId := 1, isKw := false, isSoft := false }, { ty := .OP, strId := 7, isKw := false, isSoft := false },
  { ty := .NAME, strId := 1, isKw := false, isSoft := false }, { ty := .ENDMARKER, strId := 0, isKw := false, isSoft := false }]
example : noFalsyB consProg = true := by decide +kernel
example : (execRule consProg consW 40 0 (St.init consW.size false false)).1 = .ok 3 ∧
    (execRule consProg consW 40 0 (St.init consW.size false false)).2.pos = 3 := by decide +kernel

/-- The declarative semantics of `Proofs/PegSpec.lean` (`SRule prog w id p r`:
    ordered choice, sequences with optional items, greedy `*`/`+`, separated lists, look-aheads, cut, forced items - no
    cache, no fuel, no tokenizer state) is what the recogniser computes: for every program of the plain fragment (`plainB`:
    no `memoize_left_rec` rule, no `invalid_` guard, no falsy action; decidable on every IR), every token list, every rule,
    every amount of fuel and every state whose memo cache is sound (the initial state is), an answer `ok e` is a derivation
    of a match ending at `e`, an answer `fail` a derivation of failure, and the cache stays sound - packrat memoisation is
    transparent.  Running out of fuel and raised `SyntaxError`s answer neither. -/
theorem recogniser_sound_for_peg_semantics (prog : Prog) (w : Array RTok) (hpl : plainB prog = true) (fuel id : Nat) (s : St)
    (hc : CacheOK s) (hs : CSound prog w s) :
    (∀ e, (execRule prog w fuel id s).1 = .ok e → SRule prog w id s.pos (some e)) ∧
    (∀ m, (execRule prog w fuel id s).1 = .fail m → SRule prog w id s.pos none) ∧
    CSound prog w (execRule prog w fuel id s).2 := by
  have h := (specInv (prog := prog) w (plain_of_B prog hpl) fuel).rule id s hc hs
  exact ⟨h.1.1, h.1.2, h.2⟩

/-- from the initial state: what `parse` answers about the start rule is derivable at position 0 -/
theorem recogniser_sound_from_start (prog : Prog) (w : Array RTok) (hpl : plainB prog = true) (fuel id : Nat) (b v : Bool) :
    (∀ e, (execRule prog w fuel id (St.init w.size b v)).1 = .ok e → SRule prog w id 0 (some e)) ∧
    (∀ m, (execRule prog w fuel id (St.init w.size b v)).1 = .fail m → SRule prog w id 0 none) := by
  have h := recogniser_sound_for_peg_semantics prog w hpl fuel id (St.init w.size b v) (cacheOK_init _ _ _) (cSound_init w _ _ _)
  exact ⟨h.1, h.2.1⟩

/-- Non-vacuity: `s: t '+' t | t ; t(memo): NAME+` is plain, and on `a + a` the recogniser answers 3 - so the semantics
    derives a match of rule 0 from 0 to 3. -/
def plainProg : Prog := #[
  { deco := .none, body := .alts [
      { items := [⟨.call (.rule 1), false⟩, ⟨.call (.expect 7), false⟩, ⟨.call (.rule 1), false⟩], act := .truthy, cut := false },
      { items := [⟨.call (.rule 1), false⟩], act := .truthy, cut := false }] false false },
  { deco := .memo, body := .alts [{ items := [⟨.repeated .name, false⟩], act := .truthy, cut := false }] false false }]
example : plainB plainProg = true := by decide +kernel
example : SRule plainProg consW 0 0 (some 3) :=
  (recogniser_sound_from_start plainProg consW (by decide +kernel) 40 0 false false).1 3 (by decide +kernel)

/-- The declarative semantics assigns every rule at every position at most one outcome. -/
theorem peg_semantics_deterministic (prog : Prog) (w : Array RTok) (id p : Nat) (r1 r2 : Option Nat)
    (h1 : SRule prog w id p r1) (h2 : SRule prog w id p r2) : r1 = r2 := SRule.det h1 h2

/-- Two plain programs with the same rule bodies - the same grammar with and without
    `(memo)` flags, say - give the same answer for every rule at every position, whatever the fuel and the (sound) caches,
    whenever both answer: the semantics does not look at decorators (`srule_iff_of_sameBodies`), each run is sound for it,
    and it is deterministic. -/
theorem memo_flags_do_not_change_answers (P Q : Prog) (w : Array RTok) (hb : SameBodies P Q) (hP : plainB P = true) (hQ : plainB Q = true)
    (id fuel1 fuel2 : Nat) (s1 s2 : St) (hc1 : CacheOK s1) (hs1 : CSound P w s1) (hc2 : CacheOK s2) (hs2 : CSound Q w s2) (hpos : s1.pos = s2.pos)
    (a b : Option Nat) (ha : (execRule P w fuel1 id s1).1.verdict = some a) (hb' : (execRule Q w fuel2 id s2).1.verdict = some b) :
    a = b := by
  have d1 := ((specInv w (plain_of_B P hP) fuel1).rule id s1 hc1 hs1).1.of_verdict ha
  have d2 := ((specInv w (plain_of_B Q hQ) fuel2).rule id s2 hc2 hs2).1.of_verdict hb'
  exact SRule.det (SRule.transport hb (hpos ▸ d1)) d2

/-- In the plain fragment, two runs of the same rule at the same position -
    with ANY two amounts of fuel and ANY two sound memo caches (empty, or filled by whatever was parsed before) - that both
    answer give the SAME answer: it is the unique outcome of the semantics.  So memoisation can change how long a parse
    takes and nothing else. -/
theorem answers_do_not_depend_on_cache_or_fuel (prog : Prog) (w : Array RTok) (hpl : plainB prog = true) (id fuel1 fuel2 : Nat) (s1 s2 : St)
    (hc1 : CacheOK s1) (hs1 : CSound prog w s1) (hc2 : CacheOK s2) (hs2 : CSound prog w s2) (hpos : s1.pos = s2.pos)
    (a b : Option Nat) (ha : (execRule prog w fuel1 id s1).1.verdict = some a) (hb : (execRule prog w fuel2 id s2).1.verdict = some b) :
    a = b := 
  memo_flags_do_not_change_answers prog prog w (fun _ => rfl) hpl hpl id fuel1 fuel2 s1 s2 hc1 hs1 hc2 hs2 hpos a b ha hb

theorem plainB_dropMemo (P : Prog) : plainB (dropMemo P) = plainB P := by
  unfold plainB dropMemo
  rw [Array.all_map]
  congr 1; funext r
  simp only [Function.comp]
  cases r.deco <;> rfl

/-- The special case the property names: a plain program and the same program
    with every `(memo)` flag removed answer alike (from the initial state, with any two amounts of fuel). -/
theorem removing_memo_flags_changes_no_answer (P : Prog) (w : Array RTok) (hP : plainB P = true) (id fuel1 fuel2 : Nat) (b v : Bool)
    (x y : Option Nat) (hx : (execRule P w fuel1 id (St.init w.size b v)).1.verdict = some x)
    (hy : (execRule (dropMemo P) w fuel2 id (St.init w.size b v)).1.verdict = some y) : x = y :=
  memo_flags_do_not_change_answers P (dropMemo P) w (dropMemo_sameBodies P) hP (by rw [plainB_dropMemo]; exact hP) id fuel1 fuel2 _ _
    (cacheOK_init _ _ _) (cSound_init w _ _ _) (cacheOK_init _ _ _) (cSound_init w _ _ _) rfl x y hx hy

/-- non-vacuity: the example program without its `(memo)` flag is another plain program with the same bodies -/
example : SameBodies plainProg (dropMemo plainProg) := dropMemo_sameBodies plainProg
example : plainB (dropMemo plainProg) = true := by decide +kernel

/-- In the semantics a rule that matches from position `p` ends at an `e` with
    `p ≤ e ≤ max p (number of tokens)`: a match is a forward range inside the token list (look-aheads and empty matches end at `p`). -/
theorem matches_are_forward_ranges (prog : Prog) (w : Array RTok) (id p e : Nat) (h : SRule prog w id p (some e)) :
    p ≤ e ∧ e ≤ max p w.size := SRule.rng h e rfl

/-- ... hence so is every `ok` answer of the recogniser on a plain program -/
theorem ok_answers_are_forward_ranges (prog : Prog) (w : Array RTok) (hpl : plainB prog = true) (fuel id : Nat) (s : St)
    (hc : CacheOK s) (hs : CSound prog w s) (e : Nat) (he : (execRule prog w fuel id s).1 = .ok e) :
    s.pos ≤ e ∧ e ≤ max s.pos w.size :=
  matches_are_forward_ranges prog w id s.pos e ((recogniser_sound_for_peg_semantics prog w hpl fuel id s hc hs).1 e he)

/-- The converse, on the pure fragment (`pureB`: plain, every action truthy - or taken
    to be truthy by the model: `mayRaise`, an unresolved version gate -, no rule that peeks at its first token's location): whenever the semantics derives an outcome `r` for a rule at a position,
    every run of that rule from a state at that position with a sound memo cache that holds no exceptional entry (the
    initial state is one) EITHER runs out of fuel OR answers exactly `r` - it does not raise, does not fall off the token
    list, and a memo hit gives the same answer. -/
theorem recogniser_complete_for_peg_semantics (prog : Prog) (w : Array RTok) (hp : pureB prog = true) (id p : Nat) (r : Option Nat)
    (h : SRule prog w id p r) (fuel : Nat) (s : St) (hpos : s.pos = p) (hc : CacheOK s) (hs : CSound prog w s) (hn : CNA s) :
    (execRule prog w fuel id s).1 = .outOfFuel ∨ (execRule prog w fuel id s).1.verdict = some r :=
  (SRule.cpl (pure_of_B prog hp) h fuel s hpos ⟨hc, hs, hn⟩).imp_right (·.1)

/-- On the pure fragment an exceptional answer other than running out of fuel - the
    SyntaxError of a forced token (`&&'x'`) that is missing, or reading past the end of the token list - is given only where
    the semantics assigns the rule NO outcome at that position: a forced token never turns an input the grammar matches, or
    cleanly fails on, into an error. -/
theorem exceptional_answer_means_no_outcome (prog : Prog) (w : Array RTok) (hp : pureB prog = true) (id fuel : Nat) (s : St)
    (hc : CacheOK s) (hs : CSound prog w s) (hn : CNA s)
    (hx : (execRule prog w fuel id s).1 = .raised ∨ (execRule prog w fuel id s).1 = .tokErr ∨ (execRule prog w fuel id s).1 = .undecided) :
    ¬ ∃ r, SRule prog w id s.pos r := by
  rintro ⟨r, h⟩
  rcases recogniser_complete_for_peg_semantics prog w hp id s.pos r h fuel s rfl hc hs hn with h1 | h1 <;>
    rcases hx with hx | hx | hx <;> rw [hx] at h1 <;> cases h1

/-- `recogniser_decides_peg_semantics` below, for a run from any state the two invariants hold of (`Inv`: that of
    `parser_total`; `Good`: that of completeness), at the position of that state. -/
theorem recogniser_decides_from (prog : Prog) (W : WfW) (hcert : wfCert prog W = true) (hp : pureB prog = true)
    (w : Array RTok) (id : Nat) (s : St) (hinv : Inv W w s) (hg : Good prog w s) (r : Option Nat) :
    SRule prog w id s.pos r ↔ ∃ n, ∀ k, (execRule prog w (n + k) id s).1.verdict = some r := by
  constructor
  · intro h
    -- from some fuel on the run answers, and always the same (`Runs`): by completeness that answer says `r`
    obtain ⟨x, hx, hne⟩ := execRule_runs hcert id s hinv
    obtain ⟨n, hn⟩ := hx.spec
    refine ⟨n, fun k => ?_⟩
    refine (recogniser_complete_for_peg_semantics prog w hp id s.pos r h (n + k) s rfl hg.ok hg.snd hg.na).resolve_left ?_
    rw [hn (n + k) (Nat.le_add_right n k)]; exact hne
  · rintro ⟨n, hn⟩
    exact ((specInv w (plainB_of_pureB prog hp) n).rule id s hg.ok hg.snd).1.of_verdict (hn 0)

/-- Total correctness from the start state: for a pure program that passes the
    well-formedness certificate (`wfCert`, the hypothesis of `parser_total`), the semantics derives outcome `r` for a rule
    at position 0 IF AND ONLY IF the recogniser answers `r` for all sufficiently large fuel. -/
theorem recogniser_decides_peg_semantics (prog : Prog) (W : WfW) (hcert : wfCert prog W = true) (hp : pureB prog = true)
    (w : Array RTok) (id : Nat) (b v : Bool) (r : Option Nat) :
    SRule prog w id 0 r ↔ ∃ n, ∀ k, (execRule prog w (n + k) id (St.init w.size b v)).1.verdict = some r :=
  recogniser_decides_from prog W hcert hp w id _ (inv_fresh _ (Nat.zero_le _) rfl) ⟨cacheOK_init _ _ _, cSound_init w _ _ _, cna_init _ _ _⟩ r

/-- Non-vacuity of both hypotheses and of the equivalence: the two-rule program above is pure and well-formed, so the
    derivation `SRule 0 0 (some 3)` on `a + a` is answered `ok 3` for all sufficiently large fuel. -/
def plainW : WfW := { nullable := fun _ => false, lr := fun _ => false, rank := fun i => 1 - i }
example : wfCert plainProg plainW = true := by decide +kernel
example : pureB plainProg = true := by decide +kernel
example : ∃ n, ∀ k, (execRule plainProg consW (n + k) 0 (St.init consW.size false false)).1.verdict = some (some 3) :=
  (recogniser_decides_peg_semantics plainProg plainW (by decide +kernel) (by decide +kernel) consW 0 false false (some 3)).mp
    ((recogniser_sound_from_start plainProg consW (by decide +kernel) 40 0 false false).1 3 (by decide +kernel))

/-- the facts the driver command `progfacts` reports for every generated IR ARE the hypotheses `noFalsyB`, `plainB`, `pureB` of
    `rule_consumes_exactly_its_match`, `recogniser_sound_for_peg_semantics`, `recogniser_complete_for_peg_semantics` -/
theorem driver_noFalsy_is_hypothesis (prog : Prog) : XV.Driver.progNoFalsy prog = noFalsyB prog := rfl
theorem driver_plain_is_hypothesis (prog : Prog) : XV.Driver.progPlain prog = plainB prog := by
  unfold XV.Driver.progPlain plainB
  congr 1; funext r
  cases r.deco <;> rfl

theorem driver_pure_is_hypothesis (prog : Prog) : XV.Driver.progPure prog = pureB prog := by
  unfold XV.Driver.progPure pureB
  congr 1; funext r
  cases r.deco <;> rfl

end XV.Peg
