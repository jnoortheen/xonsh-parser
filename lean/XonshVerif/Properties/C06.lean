/-
  C06 — subprocess arguments follow source word boundaries.
  Lemmas about the model: Proofs/ProcArgs.lean; about a command laid out as words: Proofs/ProcLayout.lean.
-/
import XonshVerif.Proofs.ProcArgs
import XonshVerif.Proofs.ProcLayout
namespace XV

/-- `proc_args` returns exactly one expression per run of pieces written
    without a gap, in order. -/
theorem procArgs_groups (ps : List Piece) : procArgs ps = (runs ps).filterMap glueRun :=
  procArgsAux_none ps

/-- The runs partition the piece list in order: nothing dropped, duplicated or reordered. -/
theorem runs_flatten (ps : List Piece) : (runs ps).flatten = ps := by
  induction ps using runs_induct with
  | nil => rfl
  | cons p ps ih => rw [runs_cons, List.flatten_cons, ih, List.cons_append, takeRun_append]

/-- No run is empty (so `filterMap glueRun` drops nothing). -/
theorem runs_nonempty (ps : List Piece) : ∀ r ∈ runs ps, r ≠ [] := by
  induction ps using runs_induct with
  | nil => exact fun _ h => nomatch h
  | cons p ps ih => rw [runs_cons]; exact List.forall_mem_cons.mpr ⟨List.cons_ne_nil _ _, ih⟩

theorem procArgs_length (ps : List Piece) : (procArgs ps).length = (runs ps).length := by
  rw [procArgs_groups, List.filterMap_length_eq_length]
  intro r hr
  cases r with
  | nil => exact absurd rfl (runs_nonempty ps _ hr)
  | cons => rfl

/-- The expression built for a run starts where its first piece starts and ends where its
    last piece ends. -/
theorem glue_span (p : Piece) (ps : List Piece) :
    (glue p ps).start = p.start ∧ (glue p ps).stop = ((p :: ps).getLast (by simp)).stop := by
  constructor
  · simp [glue, foldl_append_start]
  · cases ps with
    | nil => simp [glue]
    | cons q qs =>
      have := foldl_append_stop p.toArg q qs
      simpa [glue, List.getLast_cons] using this

/-- A run of plain tokens becomes ONE string constant whose value is the
    concatenation of the token strings (verbatim) and whose span is (first.start, last.end). -/
theorem glue_words (s : List Nat) (a b : Pos) (ps : List Piece) (ss : List (List Nat))
    (h : tokStrs ps = some ss) :
    glue (.tok s a b) ps = .const (s ++ ss.flatten) a (((Piece.tok s a b) :: ps).getLast (by simp)).stop := by
  obtain ⟨e, he⟩ := foldl_tokens s a b ps ss h
  have hsp := (glue_span (.tok s a b) ps).2
  simp only [glue, Piece.toArg] at he hsp ⊢
  rw [he] at hsp ⊢
  simp [Arg.stop] at hsp
  rw [hsp]

def Arg.val? : Arg → Option (List Nat)
  | .const s _ _ => some s
  | _ => none

/-- Take any command text laid out as words, each word being one or
    more tokens written without a gap, and every word after the first preceded by at least one blank
    (`cmdToks` computes the token coordinates from that layout).  Then `proc_args` returns exactly one
    string constant per word, in order, whose value is the word's text (the concatenation of its tokens):
    arguments are split at the whitespace of the source and nowhere else. -/
theorem words_are_source_words (ln c : Nat) (ws : List (Nat × List (List Nat)))
    (hgap : ∀ w ∈ ws.tail, 1 ≤ w.1) (hne : ∀ w ∈ ws, w.2 ≠ []) :
    (procArgs (cmdToks ln c ws)).map Arg.val? = ws.map (fun w => some w.2.flatten) := by
  unfold procArgs
  induction ws generalizing c with
  | nil => simp [cmdToks, procArgsAux]
  | cons w ws ih =>
    obtain ⟨gap, ts⟩ := w
    have hts : ts ≠ [] := hne (gap, ts) (by simp)
    have hgap' : ∀ w ∈ ws, 1 ≤ w.1 := fun w hw => hgap w (by simpa using hw)
    have hgap'' : ∀ w ∈ ws.tail, 1 ≤ w.1 := fun w hw => hgap' w (List.mem_of_mem_tail hw)
    have hne' : ∀ w ∈ ws, w.2 ≠ [] := fun w hw => hne w (by simp [hw])
    cases ts with
    | nil => exact absurd rfl hts
    | cons t ts =>
      have hrest := cmdToks_headStart ln (wordEnd (c + gap) (t :: ts)) ws hgap' hne'
      have hrest' : headStartNe (cmdToks ln (wordEnd (c + gap) (t :: ts)) ws)
          ⟨ln, wordEnd (c + gap + t.length) ts⟩ := by
        simpa [wordEnd, Nat.add_assoc] using hrest
      simp only [cmdToks, wordToks, List.cons_append, procArgsAux, Piece.toArg]
      rw [procArgsAux_some]
      simp only [Arg.stop]
      rw [takeRun_word ln (c + gap + t.length) ts _ hrest']
      obtain ⟨e, he⟩ := foldl_tokens t ⟨ln, c + gap⟩ ⟨ln, c + gap + t.length⟩ (wordToks ln (c + gap + t.length) ts) ts
        (tokStrs_wordToks _ _ _)
      simp only [List.map_cons, he, Arg.val?, List.flatten_cons]
      rw [ih _ hgap'' hne']

/-- Non-vacuity: `ls -l  a.b` (tokens `ls`, `-`,`l`, `a`,`.`,`b`) gives three arguments `ls`, `-l`, `a.b`. -/
example :
    procArgs [.tok (cps "ls") ⟨1,2⟩ ⟨1,4⟩, .tok (cps "-") ⟨1,5⟩ ⟨1,6⟩, .tok (cps "l") ⟨1,6⟩ ⟨1,7⟩,
              .tok (cps "a") ⟨1,9⟩ ⟨1,10⟩, .tok (cps ".") ⟨1,10⟩ ⟨1,11⟩, .tok (cps "b") ⟨1,11⟩ ⟨1,12⟩]
      = [.const (cps "ls") ⟨1,2⟩ ⟨1,4⟩, .const (cps "-l") ⟨1,5⟩ ⟨1,7⟩, .const (cps "a.b") ⟨1,9⟩ ⟨1,12⟩] := by
  rfl

end XV
