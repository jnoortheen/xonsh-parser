/-
  C09 — maximal munch for operators: what the certificate `longest_operator_first` buys.
-/
namespace XV.Ops

/-- in the list, no entry is a proper prefix of an entry listed later -/
def noEarlierPrefix {α : Type} [DecidableEq α] : List (List α) → Bool
  | [] => true
  | x :: rest => rest.all (fun y => !(x.isPrefixOf y && x != y)) && noEarlierPrefix rest

/-- the first entry of the list that is a prefix of the text (what an ordered alternation of literals matches) -/
def firstPrefix {α : Type} [DecidableEq α] (ops : List (List α)) (text : List α) : Option (List α) :=
  ops.find? (fun o => o.isPrefixOf text)

theorem prefix_same_length_eq {α : Type} [DecidableEq α] : ∀ (x y : List α), x.isPrefixOf y = true → x.length = y.length → x = y :=
  fun _ _ hp hl => (List.isPrefixOf_iff_prefix.mp hp).eq_of_length hl

/-- Maximal munch.  In a list where no entry is a proper prefix of a later one, the
    FIRST entry that is a prefix of the text is at least as long as EVERY entry that is a prefix of the text: an
    ordered alternation of such literals takes the longest operator. -/
theorem first_listed_is_longest {α : Type} [DecidableEq α] : ∀ (ops : List (List α)) (text o : List α),
    noEarlierPrefix ops = true → firstPrefix ops text = some o →
    ∀ o' ∈ ops, o'.isPrefixOf text = true → o'.length ≤ o.length
  | [], _, _, _, h, _, _, _ => by simp [firstPrefix] at h
  | x :: rest, text, o, hc, h, o', ho', hp' => by
    simp only [noEarlierPrefix, Bool.and_eq_true, List.all_eq_true] at hc
    unfold firstPrefix at h
    simp only [List.find?_cons] at h
    cases hx : x.isPrefixOf text with
    | true =>
      rw [hx] at h
      injection h with h; subst h
      rcases List.mem_cons.mp ho' with he | hm
      · rw [he]; exact Nat.le_refl _
      · -- a later entry that is also a prefix of the text cannot be longer: x would be a proper prefix of it
        rcases Nat.lt_or_ge x.length o'.length with hlt | hge
        · exfalso
          have hpre := List.isPrefixOf_iff_prefix.mpr (List.prefix_of_prefix_length_le
            (List.isPrefixOf_iff_prefix.mp hx) (List.isPrefixOf_iff_prefix.mp hp') (Nat.le_of_lt hlt))
          have hne : (x != o') = true := by
            simp only [bne_iff_ne, ne_eq]
            intro he; rw [he] at hlt; exact Nat.lt_irrefl _ hlt
          have := hc.1 o' hm
          simp [hpre, hne] at this
        · exact hge
    | false =>
      rw [hx] at h
      rcases List.mem_cons.mp ho' with he | hm
      · rw [he, hx] at hp'; cases hp'
      · exact first_listed_is_longest rest text o hc.2 h o' hm hp'

/-- strictly descending in the lexicographic order, neighbour by neighbour: what `sorted(OPS, reverse=True)` yields -/
def descending {α : Type} [LT α] [DecidableEq α] [DecidableLT α] : List (List α) → Bool
  | x :: y :: rest => decide (y < x) && descending (y :: rest)
  | _ => true

theorem descending_pairwise {α : Type} [LT α] [DecidableEq α] [DecidableLT α] [Trans (· < · : α → α → Prop) (· < ·) (· < ·)] :
    ∀ (l : List (List α)), descending l = true → l.Pairwise (fun x y => y < x)
  | [], _ => .nil
  | [_], _ => List.pairwise_singleton _ _
  | x :: y :: rest, h => by
    simp only [descending, Bool.and_eq_true, decide_eq_true_eq] at h
    have ih := descending_pairwise (y :: rest) h.2
    exact List.pairwise_cons.mpr ⟨fun z hz => (List.mem_cons.mp hz).elim (· ▸ h.1) fun hz =>
      List.lt_trans ((List.pairwise_cons.mp ih).1 z hz) h.1, ih⟩

/-- why a table sorted that way lists no proper prefix before a longer entry: a prefix of `z` is at most `z`, and every entry
    after `x` is smaller than `x` (so the certificate compares neighbours, not all pairs) -/
theorem noEarlierPrefix_of_sorted {α : Type} [LT α] [DecidableEq α] [Std.Irrefl (· < · : α → α → Prop)] :
    ∀ (l : List (List α)), l.Pairwise (fun x y => y < x) → noEarlierPrefix l = true
  | [], _ => rfl
  | x :: rest, h => by
    obtain ⟨hx, ht⟩ := List.pairwise_cons.mp h
    rw [noEarlierPrefix, noEarlierPrefix_of_sorted rest ht, Bool.and_true, List.all_eq_true]
    intro z hz
    cases hp : x.isPrefixOf z
    · rfl
    · exact absurd (hx z hz) (List.isPrefixOf_iff_prefix.mp hp).le

/-- Non-vacuity: `**=` is listed before `**` and `*`; on the text `**= 2` the first listed prefix is `**=`. -/
example : firstPrefix ["**=".toList, "**".toList, "*=".toList, "*".toList] "**= 2".toList = some "**=".toList := by decide
example : noEarlierPrefix ["**=".toList, "**".toList, "*=".toList, "*".toList] = true := by decide
example : noEarlierPrefix ["*".toList, "**".toList] = false := by decide

end XV.Ops
